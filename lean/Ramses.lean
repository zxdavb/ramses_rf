import Ramses.Props.C04
import Ramses.Props.C04Dtm
import Ramses.Proofs.RoundGrid
import Ramses.Props.C02
import Ramses.Props.C06
import Ramses.Props.C06Sched
import Ramses.Props.C01
import Ramses.Props.C05
import Ramses.Props.C05Hvac
import Ramses.Props.C05Itho
import Ramses.Props.C03
import Ramses.Props.C03Time
import Ramses.Props.C10
import Ramses.Props.C19
import Ramses.Props.C17
import Ramses.Props.C17Edit
import Ramses.Props.C07
import Ramses.Props.C08
import Ramses.Props.C09
import Ramses.Props.C11
import Ramses.Props.C14
import Ramses.Props.C13
import Ramses.Props.C16
import Ramses.Props.C15
import Ramses.Props.C20
import Ramses.Props.C20Tuple
import Ramses.Props.C18
import Ramses.Props.C12
import Ramses.Props.C02Log
import Ramses.Props.C03Mix
import Ramses.Props.C03Ot
import Ramses.Props.C05More
import Ramses.Props.C11Sync
import Ramses.Props.C13Merge
import Ramses.Props.C16Key
import Ramses.Props.C09Conn
import Ramses.Props.C03Hvac
