/-
  Folds over event lists and key/value lists, as the state models use them:
  an invariant of the step is an invariant of the fold; what an element of the list did is still
  there at the end if every step only adds; a field that every step either overwrites or leaves
  alone holds what the last overwriting element put there; an invariant indexed by the set of
  elements fed so far holds, after the fold, for the set of all of them; `find?` by key in a list
  kept by "cons the new pair, filter the old key out".
-/
namespace Ramses

variable {σ α β : Type}

theorem foldl_inv {f : σ → α → σ} {P : σ → Prop} :
    ∀ (l : List α) (s : σ), (∀ s a, a ∈ l → P s → P (f s a)) → P s → P (l.foldl f s)
  | [], _, _, hs => hs
  | a :: l, s, h, hs =>
    foldl_inv l (f s a) (fun s b hb => h s b (List.mem_cons_of_mem a hb)) (h s a List.mem_cons_self hs)

theorem foldl_mono {f : σ → α → σ} {R : σ → σ → Prop} (hr : ∀ s, R s s)
    (ht : ∀ {a b c}, R a b → R b c → R a c) (hf : ∀ s a, R s (f s a)) (l : List α) (s : σ) :
    R s (l.foldl f s) :=
  foldl_inv (P := R s) l s (fun s' a _ h => ht h (hf s' a)) (hr s)

theorem foldl_mem_mono {f : σ → α → σ} {R : σ → σ → Prop} (hr : ∀ s, R s s)
    (ht : ∀ {a b c}, R a b → R b c → R a c) (hf : ∀ s a, R s (f s a)) {a : α} {l : List α}
    (h : a ∈ l) (s : σ) : ∃ sa, R s sa ∧ R (f sa a) (l.foldl f s) := by
  obtain ⟨l₁, l₂, rfl⟩ := List.append_of_mem h
  rw [List.foldl_append, List.foldl_cons]
  exact ⟨l₁.foldl f s, foldl_mono hr ht hf l₁ s, foldl_mono hr ht hf l₂ _⟩

theorem foldl_last_writer {f : σ → α → σ} {v : σ → Option β} {w : α → Bool} {g : α → β}
    (hstep : ∀ s a, v (f s a) = if w a then some (g a) else v s) :
    ∀ (l : List α) (s : σ), v (l.foldl f s) = ((l.filter w).getLast?.map g).or (v s) := by
  intro l
  induction l with
  | nil => intro s; rfl
  | cons a l ih =>
    intro s
    rw [List.foldl_cons, ih, hstep, List.filter_cons]
    cases hw : w a with
    | false => rfl
    | true =>
      rw [if_pos rfl, if_pos rfl, List.getLast?_cons]
      cases (l.filter w).getLast? <;> rfl

/-- an invariant indexed by the set of slots fed so far, kept by each step, holds after a run for the
    slots of the run -/
theorem run_grow {σ : Type} {n : Nat} (f : σ → Nat → σ) (P : (Nat → Prop) → σ → Prop)
    (mono : ∀ {I I' st}, (∀ i, I' i → I i) → P I st → P I' st)
    (step : ∀ {I st} j, j < n → P I st → P (fun i => I i ∨ i = j) (f st j)) (l : List Nat) :
    ∀ {I : Nat → Prop} {st : σ}, (∀ i ∈ l, i < n) → P I st → P (fun i => I i ∨ i ∈ l) (l.foldl f st) := by
  induction l with
  | nil => exact fun _ h => mono (fun _ hi => hi.resolve_right (List.not_mem_nil ·)) h
  | cons j r ih =>
    intro I st hlt h
    refine mono (fun _ hi => ?_) (ih (fun i hi => hlt i (List.mem_cons_of_mem _ hi)) (step j (hlt j List.mem_cons_self) h))
    exact hi.elim (Or.inl ∘ Or.inl) fun hm => (List.mem_cons.1 hm).elim (Or.inl ∘ Or.inr) Or.inr

variable {κ : Type} [DecidableEq κ]

theorem find?_key_filter_ne (l : List (κ × β)) {k k' : κ} (h : k ≠ k') :
    (l.filter (fun e => e.1 != k')).find? (fun e => e.1 = k) = l.find? (fun e => e.1 = k) := by
  rw [List.find?_filter]
  congr 1; funext e
  by_cases he : e.1 = k
  · simp [he, h]
  · simp [he]

theorem find?_key_put (l : List (κ × β)) (k k' : κ) (x : β) :
    (((k', x) :: l.filter (fun e => e.1 != k')).find? (fun e => e.1 = k)).map (·.2) =
      if k = k' then some x else (l.find? (fun e => e.1 = k)).map (·.2) := by
  by_cases h : k = k'
  · subst h; simp
  · rw [List.find?_cons_of_neg (by simpa using fun h' : k' = k => h h'.symm), find?_key_filter_ne l h, if_neg h]

end Ramses
