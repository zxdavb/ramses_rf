/-
  The percent-byte grids on which `round((k/c)*c) = k` is stated as a Bool over a range, from
  `round_div_mul`.  (The hundredths of a degree use `round_div_mul` as it stands: `C04.centi_roundtrip`,
  `C17.setpoint_grid`.)
-/
import Ramses.Proofs.RoundGridDefs
import Ramses.Proofs.DblLemmas
namespace Ramses

theorem pct200_all : allIn 8 0 pct200Ok = true :=
  allIn_of_forall _ _ _ fun k _ h => beq_iff_eq.2 (round_div_mul k (by decide) (by omega))
theorem pct100_all : allIn 7 0 pct100Ok = true :=
  allIn_of_forall _ _ _ fun k _ h => beq_iff_eq.2 (round_div_mul k (by decide) (by omega))

end Ramses
