/-
  Fixed-width fields: a payload is a concatenation of fields of known width, and a decoder reads
  it back by position.  `field_at` is the one step both sides share: at a cursor `a` where the
  rest of the text is `x ++ r`, the slice `[a, a + |x|)` is `x` and the cursor moves to `r`.
-/
import Ramses.Proofs.HexLemmas
namespace Ramses

theorem field_at {α} {s x r : List α} {a b : Nat} (h : s.drop a = x ++ r) (hb : a + x.length = b) :
    slice s a b = x ∧ s.drop b = r := by
  subst hb
  constructor
  · unfold slice
    rw [← List.take_drop, h, List.take_left]
  · rw [← List.drop_drop, h, List.drop_left]

theorem field_first {α} {s x r : List α} {b : Nat} (h : s = x ++ r) (hb : x.length = b) :
    s.take b = x ∧ s.drop b = r :=
  field_at (a := 0) h (by omega)

theorem field_last {α} {s x : List α} {a b : Nat} (h : s.drop a = x) (hb : a + x.length ≤ b) :
    slice s a b = x := by
  subst h
  unfold slice
  rw [List.take_of_length_le]
  simp at hb; omega

/-- from position `a` on, `s` reads: the fields `xs`, one after the other, then `r` -/
def FieldsAt {α} (s : List α) : Nat → List (List α) → List α → Prop
  | a, [], r => s.drop a = r
  | a, x :: xs, r => slice s a (a + x.length) = x ∧ FieldsAt s (a + x.length) xs r

/-- a concatenation read back: every field stands at the sum of the widths before it
    (`simp only [FieldsAt, <the widths>, Nat.reduceAdd]` turns the result into the slices by number) -/
theorem fieldsAt {α} {s : List α} : ∀ {a : Nat} (xs : List (List α)) {r : List α},
    s.drop a = xs.foldr (· ++ ·) r → FieldsAt s a xs r
  | _, [], _, h => h
  | _, _ :: xs, _, h => let ⟨e, c⟩ := field_at h rfl; ⟨e, fieldsAt xs c⟩

theorem fmtHex_byte (n : Nat) (h : n < 256) : (fmtHex 2 n).length = 2 := fmtHex_length 2 n (by decide) h
theorem fmtHex_word (n : Nat) (h : n < 65536) : (fmtHex 4 n).length = 4 := fmtHex_length 4 n (by decide) h

theorem takeHex_byte (n : Nat) (rest : List Char) (h : n < 256) : takeHex 2 (fmtHex 2 n ++ rest) = some (n, rest) :=
  takeHex_fmtHex 2 n rest (by decide) h
theorem takeHex_word (n : Nat) (rest : List Char) (h : n < 65536) : takeHex 4 (fmtHex 4 n ++ rest) = some (n, rest) :=
  takeHex_fmtHex 4 n rest (by decide) h

theorem valid_iff (d : DateTime) : d.valid = true ↔
    1 ≤ d.year ∧ d.year ≤ 9999 ∧ 1 ≤ d.month ∧ d.month ≤ 12 ∧ 1 ≤ d.day ∧
    d.day ≤ daysInMonth d.year d.month ∧ d.hour < 24 ∧ d.minute < 60 ∧ d.second < 60 :=
  decide_eq_true_iff

theorem daysInMonth_le (y m : Nat) : daysInMonth y m ≤ 31 := by
  unfold daysInMonth
  split <;> split <;> omega

theorem valid_bounds (d : DateTime) (h : d.valid = true) :
    1 ≤ d.year ∧ d.year ≤ 9999 ∧ 1 ≤ d.month ∧ d.month ≤ 12 ∧ 1 ≤ d.day ∧ d.day ≤ 31 ∧
    d.hour < 24 ∧ d.minute < 60 ∧ d.second < 60 := by
  obtain ⟨h1, h2, h3, h4, h5, h6, h7, h8, h9⟩ := (valid_iff d).1 h
  exact ⟨h1, h2, h3, h4, h5, Nat.le_trans h6 (daysInMonth_le _ _), h7, h8, h9⟩

end Ramses
