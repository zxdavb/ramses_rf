/-
  `cutEvery` (Model/Sched) by its equation: the fuel is never looked at again.  (`chunks` of
  Model/Parsers is the same function written a second time: `chunks_eq`, Proofs/ParserLemmas.)
-/
import Ramses.Model.Sched
namespace Ramses

theorem cutGo_fuel {α} {k : Nat} (hk : 0 < k) : ∀ (fuel fuel' : Nat) (l : List α), l.length < fuel → l.length < fuel' →
    cutEvery.go k fuel l = cutEvery.go k fuel' l
  | fuel + 1, fuel' + 1, l, h, h' => by
    unfold cutEvery.go
    split
    · rfl
    · rename_i hne
      have : 0 < l.length := List.length_pos_iff.2 hne
      rw [cutGo_fuel hk fuel fuel' (l.drop k) (by rw [List.length_drop]; omega) (by rw [List.length_drop]; omega)]

theorem cutEvery_cons {α} {k : Nat} (hk : 0 < k) {l : List α} (hl : l ≠ []) :
    cutEvery k l = l.take k :: cutEvery k (l.drop k) := by
  have : 0 < l.length := List.length_pos_iff.2 hl
  unfold cutEvery
  rw [if_neg (by omega), if_neg (by omega), cutEvery.go, if_neg hl]
  exact congrArg _ (cutGo_fuel hk l.length ((l.drop k).length + 1) (l.drop k) (by rw [List.length_drop]; omega)
    (Nat.lt_succ_self _))

theorem cutEvery_nil {α} (k : Nat) : cutEvery k ([] : List α) = [] := by
  unfold cutEvery; split <;> rfl

theorem cut_records {α} (k : Nat) (hk : 0 < k) : ∀ (rs : List (List α)), (∀ r ∈ rs, r.length = k) →
    cutEvery k rs.flatten = rs
  | [], _ => cutEvery_nil k
  | r :: rs, h => by
    have hr : r.length = k := h r List.mem_cons_self
    have hne : r ++ rs.flatten ≠ [] := fun e => by rw [(List.append_eq_nil_iff.1 e).1] at hr; exact absurd hr (by simp; omega)
    rw [List.flatten_cons, cutEvery_cons hk hne, List.take_left' hr, List.drop_left' hr,
      cut_records k hk rs fun x hx => h x (List.mem_cons_of_mem _ hx)]

end Ramses
