/-
  The helpers every payload parser is written with (Model/Parsers.lean): `pyInt16` on text that is a
  printed number, `chunks` on a concatenation of equal pieces.
-/
import Ramses.Model.Parsers
import Ramses.Proofs.HexLemmas
import Ramses.Proofs.Cut
namespace Ramses

theorem pyInt16_ok {v : List Char} {n : Nat} : pyInt16 v = .ok n ↔ ofHex v = some n := by
  unfold pyInt16; cases ofHex v <;> simp

theorem pyInt16_fmtHex (w n : Nat) (hw : 0 < w := by decide) (h : n < 16 ^ w := by omega) : pyInt16 (fmtHex w n) = .ok n := by
  unfold pyInt16; rw [ofHex_fmtHex w n hw h]

/-- `chunks` is `cutEvery` (Model/Sched) on characters, written out a second time -/
theorem chunks_eq (k : Nat) (p : List Char) : chunks k p = cutEvery k p := by
  have go : ∀ fuel q, chunks.go k fuel q = cutEvery.go k fuel q := by
    intro fuel
    induction fuel with
    | zero => exact fun _ => rfl
    | succ n ih => intro q; unfold chunks.go cutEvery.go; rw [ih]
  unfold chunks cutEvery
  rw [go]

theorem chunks_flatten (k : Nat) (hk : 0 < k) (es : List (List Char)) (hes : ∀ e ∈ es, e.length = k) :
    chunks k es.flatten = es := (chunks_eq k _).trans (cut_records k hk es hes)

end Ramses
