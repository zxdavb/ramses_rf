/-
  The text functions of Model/Py.lean (`strip`, `slice`, `splitOnChar`).
-/
import Ramses.Model.Py
import Ramses.Proofs.Basic
namespace Ramses

theorem strip_ne_nil {s : List Char} {c : Char} (hc : c ∈ s) (h : isSpacePy c = false) : strip s ≠ [] := by
  unfold strip rstrip lstrip
  intro he
  have h4 := mem_dropWhile (List.mem_reverse.2 (mem_dropWhile hc h)) h
  rw [List.reverse_eq_nil_iff.1 he] at h4
  cases h4

theorem slice_append_drop {α} (s : List α) (a b : Nat) (h : a ≤ b) :
    slice s a b ++ s.drop b = s.drop a := by
  unfold slice
  by_cases hl : a ≤ (s.take b).length
  · rw [← List.drop_append_of_le_length hl, List.take_append_drop]
  · have h1 : (s.take b).length = min b s.length := List.length_take
    have h2 : s.length < a := by omega
    rw [List.drop_eq_nil_of_le (by omega), List.drop_eq_nil_of_le (by omega),
      List.drop_eq_nil_of_le (by omega)]
    rfl

theorem splitOnChar_head {c : Char} {p : List Char} (h : c ∉ p) : (splitOnChar c p).headD [] = p := by
  induction p with
  | nil => rfl
  | cons x xs ih =>
    have ih := ih (fun m => h (List.mem_cons_of_mem _ m))
    have hx : ¬ x = c := fun e => h (e ▸ List.mem_cons_self)
    unfold splitOnChar
    split
    · next he => rw [he] at ih; exact congrArg (x :: ·) ih
    · next g gs he => rw [he] at ih; rw [if_neg hx]; exact congrArg (x :: ·) ih

end Ramses
