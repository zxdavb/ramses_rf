/-
  Hexadecimal and decimal text of Model/Hex.lean: printing and reading are inverse on the width printed
  (side conditions `0 < w`, `n < 16 ^ w` are found at the call where they are decidable or in the context).
-/
import Ramses.Model.Codec
import Ramses.Proofs.ListLemmas
namespace Ramses

theorem toDecW_length (w n : Nat) : (toDecW w n).length = w := by
  induction w generalizing n with
  | zero => rfl
  | succ w ih => simp [toDecW, ih]

theorem digit_char : ∀ k < 10, isDigit (Char.ofNat (48 + k)) = true ∧ (Char.ofNat (48 + k)).toNat - 48 = k := by
  decide

theorem ofDecAux_toDecW (w : Nat) : ∀ (n acc : Nat) (rest : List Char), n < 10 ^ w →
    ofDecAux (toDecW w n ++ rest) acc = ofDecAux rest (acc * 10 ^ w + n) := by
  induction w with
  | zero => intro n acc rest h; simp at h; subst h; simp [toDecW]
  | succ w ih =>
    intro n acc rest h
    simp only [toDecW, List.append_assoc, List.singleton_append]
    have hq : n / 10 < 10 ^ w := Nat.div_lt_of_lt_mul (by omega)
    rw [ih (n / 10) acc _ hq]
    have hd := digit_char (n % 10) (Nat.mod_lt _ (by omega))
    simp only [ofDecAux, hd.1, if_true, hd.2]
    congr 1
    rw [Nat.pow_succ]
    rw [Nat.add_mul, Nat.mul_assoc]
    omega

theorem hexLen_le (w n : Nat) (hw : 0 < w) (h : n < 16 ^ w) : hexLen n ≤ w := by
  unfold hexLen
  split
  · omega
  · rename_i hn
    have h2 : n < 2 ^ (4 * w) := by
      have : (16 : Nat) ^ w = 2 ^ (4 * w) := by
        rw [Nat.pow_mul]
      omega
    have := (Nat.log2_lt hn).2 h2
    omega

theorem fmtHex_eq (w n : Nat) (hw : 0 < w) (h : n < 16 ^ w) : fmtHex w n = toHexW w n := by
  unfold fmtHex
  rw [Nat.max_eq_left (hexLen_le w n hw h)]

theorem ofHex_fmtHex (w n : Nat) (hw : 0 < w := by decide) (h : n < 16 ^ w := by omega) : ofHex (fmtHex w n) = some n := by
  rw [fmtHex_eq w n hw h]; exact ofHex_toHexW w n hw h

theorem fmtHex_length (w n : Nat) (hw : 0 < w := by decide) (h : n < 16 ^ w := by omega) : (fmtHex w n).length = w := by
  rw [fmtHex_eq w n hw h]; exact toHexW_length w n

theorem isSpacePy_hexDigit : ∀ k < 16, isSpacePy (hexDigit k) = false := by decide

theorem fmtHex_strip (w n : Nat) : strip (fmtHex (w + 1) n) ≠ [] := by
  obtain ⟨m, hm⟩ : ∃ m, max (w + 1) (hexLen n) = m + 1 := ⟨max (w + 1) (hexLen n) - 1, by omega⟩
  unfold fmtHex
  rw [hm, toHexW]
  exact strip_ne_nil (c := hexDigit (n % 16)) (by simp) (isSpacePy_hexDigit _ (Nat.mod_lt _ (by decide)))

theorem fmtHex_ne {w n m : Nat} {t : List Char} (ht : ofHex t = some m) (hne : n ≠ m)
    (hw : 0 < w := by decide) (h : n < 16 ^ w := by omega) : fmtHex w n ≠ t := by
  intro e
  rw [← e, ofHex_fmtHex w n hw h] at ht
  exact hne (Option.some.inj ht)

theorem fmtHex_inj (w a b : Nat) (hw : 0 < w) (ha : a < 16 ^ w) (hb : b < 16 ^ w)
    (h : fmtHex w a = fmtHex w b) : a = b :=
  Decidable.byContradiction fun hne => fmtHex_ne (ofHex_fmtHex w b hw hb) hne hw ha h

theorem toHexW_take (a b n : Nat) : (toHexW (a + b) n).take a = toHexW a (n / 16 ^ b) := by
  induction b generalizing n with
  | zero => rw [Nat.add_zero, Nat.pow_zero, Nat.div_one, List.take_of_length_le (by rw [toHexW_length]; omega)]
  | succ b ih =>
    rw [← Nat.add_assoc, toHexW, List.take_append_of_le_length (by rw [toHexW_length]; omega), ih, Nat.div_div_eq_div_mul,
      Nat.pow_succ, Nat.mul_comm]

theorem fmtHex_take (a b n : Nat) (ha : 0 < a) (h : n < 16 ^ (a + b)) :
    (fmtHex (a + b) n).take a = fmtHex a (n / 16 ^ b) := by
  rw [fmtHex_eq _ n (by omega) h, toHexW_take, fmtHex_eq a _ ha]
  rw [Nat.pow_add] at h
  exact Nat.div_lt_of_lt_mul (by rw [Nat.mul_comm]; exact h)

theorem takeHex_fmtHex (w n : Nat) (rest : List Char) (hw : 0 < w) (h : n < 16 ^ w) :
    takeHex w (fmtHex w n ++ rest) = some (n, rest) := by
  have hl := fmtHex_length w n hw h
  unfold takeHex
  rw [if_neg (by rw [List.length_append]; omega), List.take_left' hl, List.drop_left' hl, ofHex_fmtHex w n hw h]

theorem toHexW_allHex (w n : Nat) : (toHexW w n).all isUpperHex = true := by
  induction w generalizing n with
  | zero => rfl
  | succ w ih =>
    simp only [toHexW, List.all_append, ih, List.all_cons, List.all_nil, Bool.and_true, Bool.true_and]
    exact isUpperHex_hexDigit _ (Nat.mod_lt _ (by decide))

theorem fmtHex_allHex (w n : Nat) : (fmtHex w n).all isUpperHex = true := toHexW_allHex _ n

theorem hexVal_lt (c : Char) (v : Nat) (h : hexVal c = some v) : v < 16 := by
  revert h
  fun_cases hexVal c <;> intro h <;> cases h <;> omega

theorem ofHexAux_lt (s : List Char) (acc r : Nat) (h : ofHexAux s acc = some r) :
    r < (acc + 1) * 16 ^ s.length := by
  induction s generalizing acc with
  | nil => cases h; simp
  | cons c cs ih =>
    simp only [ofHexAux] at h
    split at h
    · rename_i v hv
      have hv16 := hexVal_lt c v hv
      -- one more digit: `acc * 16 + v + 1 ≤ (acc + 1) * 16`
      rw [List.length_cons, Nat.pow_succ, Nat.mul_comm _ 16, ← Nat.mul_assoc]
      exact Nat.lt_of_lt_of_le (ih _ h) (Nat.mul_le_mul_right _ (by omega))
    · cases h

theorem ofHex_lt (s : List Char) (n : Nat) (h : ofHex s = some n) : n < 16 ^ s.length := by
  unfold ofHex at h
  split at h
  · cases h
  · simpa using ofHexAux_lt s 0 n h

end Ramses
