/-
  What the binary64 model (Model/Dbl.lean) computes.

  `rd53 n d` is `q * 2^(-s)` with `q` the integer nearest to `n/d * 2^s` and `q ≥ 2^52` (`rd53_eq`),
  hence within `2^-53` of `n/d` (`rd53_spec`); `roundHalfEven` is the nearest integer
  (`Dy.roundHalfEven_eq`).  So `round((k/c)*c) = k` for `k < 2^51` (`round_div_mul`): the two
  roundings move `k` by about `k * 2^-52 < 1/2`.  Whole numbers below `2^53` are doubles, so their
  products are exact (`round_mulInt_nat`) and a quotient that is at most a whole number is still so
  after rounding (`divInt_le_nat`).
-/
import Ramses.Model.Dbl
namespace Ramses

/-- the nearest integer to `N / D`, ties to even -/
def rne (N D : Nat) : Nat :=
  if 2 * (N % D) > D ∨ (2 * (N % D) = D ∧ N / D % 2 = 1) then N / D + 1 else N / D

/-- `(N, D)` with `N / D = n / d * 2 ^ s` -/
def scaled (n d : Nat) (s : Int) : Nat × Nat :=
  if s ≥ 0 then (n * 2 ^ s.toNat, d) else (n, d * 2 ^ (-s).toNat)

theorem Dy.roundHalfEven_eq_rne (x : Dy) : x.roundHalfEven = rne x.frac.1 x.frac.2 := rfl

theorem rd53_eq_rne {n d : Nat} (hn : 0 < n) (hd : 0 < d) :
    rd53 n d =
      let s0 : Int := 52 - ((Nat.log2 n : Int) - (Nat.log2 d : Int))
      let q0 := (scaled n d s0).1 / (scaled n d s0).2
      let s : Int := if q0 ≥ 2 ^ 53 then s0 - 1 else if q0 < 2 ^ 52 then s0 + 1 else s0
      ⟨rne (scaled n d s).1 (scaled n d s).2, -s⟩ := by
  unfold rd53
  rw [if_neg (by omega)]
  rfl

theorem rne_near (N : Nat) {D : Nat} (hD : 0 < D) :
    2 * (rne N D * D) ≤ 2 * N + D ∧ 2 * N ≤ 2 * (rne N D * D) + D := by
  have h := Nat.div_add_mod N D
  have hr := Nat.mod_lt N hD
  rw [Nat.mul_comm] at h
  unfold rne
  split
  · rw [Nat.add_mul]; omega
  · omega

theorem rne_eq {N D k : Nat} (h1 : 2 * (k * D) < 2 * N + D) (h2 : 2 * N < 2 * (k * D) + D) :
    rne N D = k := by
  have hD : 0 < D := by omega
  have ⟨n1, n2⟩ := rne_near N hD
  have a : k * D < (rne N D + 1) * D := by rw [Nat.add_mul]; omega
  have b : rne N D * D < (k + 1) * D := by rw [Nat.add_mul]; omega
  have := Nat.lt_of_mul_lt_mul_right a
  have := Nat.lt_of_mul_lt_mul_right b
  omega

theorem rne_le {N D m : Nat} (hD : 0 < D) (h : N ≤ m * D) : rne N D ≤ m := by
  have ⟨n1, _⟩ := rne_near N hD
  have a : rne N D * D < (m + 1) * D := by rw [Nat.add_mul]; omega
  have := Nat.lt_of_mul_lt_mul_right a
  omega

theorem rne_mul (m : Nat) {D : Nat} (hD : 0 < D) : rne (m * D) D = m :=
  rne_eq (by omega) (by omega)

/-- both branches at once; the sign of `s` is then `omega`'s business (`Int.toNat`) -/
theorem scaled_eq (n d : Nat) (s : Int) : scaled n d s = (n * 2 ^ s.toNat, d * 2 ^ (-s).toNat) := by
  unfold scaled
  split
  · rw [Int.toNat_eq_zero.2 (by omega : -s ≤ 0), Nat.pow_zero, Nat.mul_one]
  · rw [Int.toNat_eq_zero.2 (by omega : s ≤ 0), Nat.pow_zero, Nat.mul_one]

theorem Dy.frac_eq (x : Dy) : x.frac = (x.m * 2 ^ x.e.toNat, 2 ^ (-x.e).toNat) := by
  unfold Dy.frac
  split
  · rw [Int.toNat_eq_zero.2 (by omega : -x.e ≤ 0), Nat.pow_zero]
  · rw [Int.toNat_eq_zero.2 (by omega : x.e ≤ 0), Nat.pow_zero, Nat.mul_one]

theorem Dy.frac_pos (x : Dy) : 0 < x.frac.2 := by
  rw [Dy.frac_eq]
  exact Nat.pow_pos (by decide)

theorem scaled_pos {d : Nat} (hd : 0 < d) (n : Nat) (s : Int) : 0 < (scaled n d s).2 := by
  rw [scaled_eq]
  exact Nat.mul_pos hd (Nat.pow_pos (by decide))

/-- the value `q * 2 ^ (-s)` as a fraction `a / b`, against `(N, D) = scaled n d s`:
    `a / b` is to `n / d` as `q` is to `N / D` -/
theorem Dy.frac_scaled (n d q : Nat) (s : Int) :
    (Dy.frac ⟨q, -s⟩).1 * d = q * (scaled n d s).2 ∧ n * (Dy.frac ⟨q, -s⟩).2 = (scaled n d s).1 := by
  rw [Dy.frac_eq, scaled_eq, Int.neg_neg]
  exact ⟨by dsimp only; ac_rfl, rfl⟩

/-- With `s = k + 1 - (log2 n - log2 d)` the scaled quotient is at least `2 ^ k`:
    `2 ^ log2 n ≤ n` and `d < 2 ^ (log2 d + 1)`. -/
theorem scaled_ge {n : Nat} (hn : 0 < n) (d k : Nat) {s : Int}
    (hs : s = k + 1 - ((n.log2 : Int) - d.log2)) : 2 ^ k * (scaled n d s).2 ≤ (scaled n d s).1 := by
  have ha : 2 ^ n.log2 ≤ n := Nat.log2_self_le (by omega)
  have hb : d ≤ 2 ^ (d.log2 + 1) := Nat.le_of_lt Nat.lt_log2_self
  rw [scaled_eq]
  calc 2 ^ k * (d * 2 ^ (-s).toNat)
      ≤ 2 ^ k * (2 ^ (d.log2 + 1) * 2 ^ (-s).toNat) :=
        Nat.mul_le_mul_left _ (Nat.mul_le_mul_right _ hb)
    _ = 2 ^ n.log2 * 2 ^ s.toNat := by
      rw [← Nat.pow_add, ← Nat.pow_add, ← Nat.pow_add]; congr 1; omega
    _ ≤ n * 2 ^ s.toNat := Nat.mul_le_mul_right _ ha

theorem scaled_pred_ge (n d k : Nat) (s : Int)
    (h : 2 ^ (k + 1) * (scaled n d s).2 ≤ (scaled n d s).1) :
    2 ^ k * (scaled n d (s - 1)).2 ≤ (scaled n d (s - 1)).1 := by
  rw [scaled_eq] at h ⊢
  dsimp only at h ⊢
  -- halving the quotient takes one from the exponent of the numerator, or adds one to the denominator's
  rcases Int.lt_or_le 0 s with hs | hs
  · rw [(by omega : s.toNat = (s - 1).toNat + 1), (by omega : (-s).toNat = (-(s - 1)).toNat), Nat.pow_succ,
      Nat.pow_succ, Nat.mul_right_comm, ← Nat.mul_assoc n] at h
    exact Nat.le_of_mul_le_mul_right h (by decide)
  · rw [(by omega : (-(s - 1)).toNat = (-s).toNat + 1), (by omega : (s - 1).toNat = s.toNat)]
    exact Nat.le_trans (Nat.le_of_eq (by rw [Nat.pow_succ, Nat.pow_succ]; ac_rfl)) h

theorem rd53_zero_left (d : Nat) : rd53 0 d = ⟨0, 0⟩ := by simp [rd53]

/-- `rd53 n d` is the integer nearest to `n / d * 2 ^ s`, times `2 ^ (-s)`, for an `s` that makes
    that integer at least `2 ^ 52`.  The `log2` guess `s0` is at most one too small: at `s0 + 1`
    the scaled quotient is at least `2 ^ 52` whatever `q0` was (`scaled_ge`), and that is the only
    place where `log2` matters.  In the other two branches the test on `q0` itself gives the bound
    (nothing here needs that `q0 ≥ 2 ^ 53` cannot happen, or that the result is below `2 ^ 53`). -/
theorem rd53_eq {n d : Nat} (hn : 0 < n) (hd : 0 < d) :
    ∃ s : Int, 2 ^ 52 * (scaled n d s).2 ≤ (scaled n d s).1 ∧
      rd53 n d = ⟨rne (scaled n d s).1 (scaled n d s).2, -s⟩ := by
  refine ⟨_, ?_, rd53_eq_rne hn hd⟩
  split
  · rename_i h
    exact scaled_pred_ge n d 52 _ ((Nat.le_div_iff_mul_le (scaled_pos hd n _)).1 h)
  split
  · exact scaled_ge hn d 52 (by omega)
  · rename_i h
    exact (Nat.le_div_iff_mul_le (scaled_pos hd n _)).1 (Nat.le_of_not_lt h)

/-- correct rounding: `a / b = rd53 n d` differs from `n / d` by at most `2 ^ (-53)` of it -/
theorem rd53_spec (n : Nat) {d : Nat} (hd : 0 < d) :
    2 ^ 53 * ((rd53 n d).frac.1 * d) ≤ 2 ^ 53 * (n * (rd53 n d).frac.2) + n * (rd53 n d).frac.2 ∧
    2 ^ 53 * (n * (rd53 n d).frac.2) ≤ 2 ^ 53 * ((rd53 n d).frac.1 * d) + n * (rd53 n d).frac.2 := by
  rcases n.eq_zero_or_pos with rfl | hn
  · simp [rd53_zero_left, Dy.frac]
  obtain ⟨s, hs, e⟩ := rd53_eq hn hd
  obtain ⟨f1, f2⟩ := Dy.frac_scaled n d (rne (scaled n d s).1 (scaled n d s).2) s
  have := rne_near (scaled n d s).1 (scaled_pos hd n s)
  rw [e, f1, f2]
  omega

theorem rd53_eq_of_lt {n d : Nat} (hn : 0 < n) (hd : 0 < d) (h : n < 2 ^ 53 * d) :
    ∃ t : Nat, 2 ^ 52 * d ≤ n * 2 ^ t ∧ rd53 n d = ⟨rne (n * 2 ^ t) d, -(t : Int)⟩ := by
  obtain ⟨s, hs, e⟩ := rd53_eq hn hd
  rw [scaled_eq] at hs e
  have h0 : 0 ≤ s := Int.not_lt.1 fun hneg => by
    have : d * 2 ≤ d * 2 ^ (-s).toNat := Nat.mul_le_mul_left d (Nat.le_self_pow (by omega) 2)
    rw [Int.toNat_eq_zero.2 (Int.le_of_lt hneg)] at hs
    omega
  rw [Int.toNat_eq_zero.2 (by omega : -s ≤ 0), Nat.pow_zero, Nat.mul_one] at hs e
  exact ⟨s.toNat, hs, by rw [Int.toNat_of_nonneg h0]; exact e⟩

theorem Dy.frac_neg_natCast (q t : Nat) : (⟨q, -(t : Int)⟩ : Dy).frac = (q, 2 ^ t) := by
  simp [Dy.frac_eq]

theorem divInt_le_nat {n d m : Nat} (hm : m < 2 ^ 53) (h : n ≤ m * d) :
    (divInt n d).leFrac m 1 = true := by
  unfold divInt
  rcases n.eq_zero_or_pos with rfl | hn
  · simp [rd53_zero_left, Dy.leFrac, Dy.frac]
  have hd : 0 < d := Nat.pos_of_ne_zero fun h0 => by simp [h0] at h; omega
  obtain ⟨t, -, e⟩ := rd53_eq_of_lt hn hd
    (Nat.lt_of_le_of_lt h (Nat.mul_lt_mul_of_pos_right hm hd))
  rw [e]
  simp only [Dy.leFrac, Dy.frac_neg_natCast, Nat.mul_one, decide_eq_true_eq]
  refine rne_le hd ?_
  rw [Nat.mul_right_comm]
  exact Nat.mul_le_mul_right _ h

theorem divInt_le_one {n d : Nat} (h : n ≤ d) : (divInt n d).leFrac 1 1 = true :=
  divInt_le_nat (by decide) (by omega)

theorem Dy.leFrac_one_iff (x : Dy) :
    x.leFrac 1 1 = true ↔ x.ltFrac 1 1 = true ∨ x.eqv ⟨1, 0⟩ = true := by
  have e : (⟨1, 0⟩ : Dy).frac = (1, 1) := rfl
  simp [Dy.leFrac, Dy.ltFrac, Dy.eqv, e]
  omega

theorem Dy.roundHalfEven_eq {x : Dy} {k : Nat} (h1 : 2 * (k * x.frac.2) < 2 * x.frac.1 + x.frac.2)
    (h2 : 2 * x.frac.1 < 2 * (k * x.frac.2) + x.frac.2) : x.roundHalfEven = k :=
  rne_eq h1 h2

private theorem mul_right_le {P U V W : Nat} (c : Nat) (h : P * U ≤ P * V + W) :
    P * (U * c) ≤ P * (V * c) + W * c := by
  have := Nat.mul_le_mul_right c h
  rwa [Nat.add_mul, Nat.mul_assoc, Nat.mul_assoc] at this

/-- Two roundings, each off by at most `2 ^ (-53)` of its argument, move `k < 2 ^ 51` by less than
    a half: `u / b` is the first result, `a' / b'` the second. -/
theorem two_roundings_near {k b b' u a' : Nat} (hk : k < 2 ^ 51) (hb : 0 < b) (hb' : 0 < b')
    (h1 : 2 ^ 53 * u ≤ 2 ^ 53 * (k * b) + k * b) (h2 : 2 ^ 53 * (k * b) ≤ 2 ^ 53 * u + k * b)
    (h3 : 2 ^ 53 * (a' * b) ≤ 2 ^ 53 * (u * b') + u * b')
    (h4 : 2 ^ 53 * (u * b') ≤ 2 ^ 53 * (a' * b) + u * b') :
    2 * (k * b') < 2 * a' + b' ∧ 2 * a' < 2 * (k * b') + b' := by
  have e : k * b * b' = k * b' * b := Nat.mul_right_comm k b b'
  have m1 := mul_right_le b' h1
  have m2 := mul_right_le b' h2
  rw [e] at m1 m2
  have hk' : k * b' * b ≤ (2 ^ 51 - 1) * (b' * b) := by
    rw [Nat.mul_assoc]; exact Nat.mul_le_mul_right _ (by omega)
  have := Nat.mul_pos hb' hb
  have g : 2 * (k * b' * b) < 2 * (a' * b) + b' * b ∧ 2 * (a' * b) < 2 * (k * b' * b) + b' * b := by
    omega
  exact ⟨Nat.lt_of_mul_lt_mul_right (a := b) (by simpa only [Nat.add_mul, Nat.mul_assoc] using g.1),
    Nat.lt_of_mul_lt_mul_right (a := b) (by simpa only [Nat.add_mul, Nat.mul_assoc] using g.2)⟩

/-- `round((k / c) * c) = k` in binary64 for every `k < 2 ^ 51`.  Between `2 ^ 51` and `2 ^ 52`
    doubles lie half a unit apart and it fails (`c = 100`, `k = 4503599627367505`).  There is no
    bound on `c` because the model has no exponent range (Model/Dbl.lean, head). -/
theorem round_div_mul (k : Nat) {c : Nat} (hc : 0 < c) (hk : k < 2 ^ 51) :
    ((divInt k c).mulInt c).roundHalfEven = k := by
  have hb := (rd53 k c).frac_pos
  obtain ⟨h1, h2⟩ := rd53_spec k hc
  obtain ⟨h3, h4⟩ := rd53_spec ((rd53 k c).frac.1 * c) hb
  obtain ⟨g1, g2⟩ := two_roundings_near hk hb (Dy.frac_pos _) h1 h2 h3 h4
  exact Dy.roundHalfEven_eq g1 g2

theorem round_mulInt_nat {n f : Nat} (h : n * f < 2 ^ 53) :
    ((⟨n, 0⟩ : Dy).mulInt f).roundHalfEven = n * f := by
  have e : (⟨n, 0⟩ : Dy).mulInt f = rd53 (n * f) 1 := by simp [Dy.mulInt, Dy.frac]
  rw [e]
  generalize n * f = m at *
  rcases m.eq_zero_or_pos with rfl | h0
  · simp [rd53_zero_left, Dy.frac, Dy.roundHalfEven]
  · obtain ⟨t, -, e⟩ := rd53_eq_of_lt h0 Nat.one_pos (by omega)
    have := rne_mul (m * 2 ^ t) Nat.one_pos
    rw [Nat.mul_one] at this
    rw [e, Dy.roundHalfEven_eq_rne, Dy.frac_neg_natCast, this]
    exact rne_mul m (Nat.pow_pos (by decide))

theorem allIn_of_forall : ∀ (d lo : Nat) (p : Nat → Bool),
    (∀ k, lo ≤ k → k < lo + 2 ^ d → p k = true) → allIn d lo p = true
  | 0, lo, p, h => h lo (Nat.le_refl _) (by omega)
  | d + 1, lo, p, h => by
    simp only [allIn, Bool.and_eq_true]
    exact ⟨allIn_of_forall d lo p fun k h1 h2 => h k h1 (by omega),
      allIn_of_forall d _ p fun k h1 h2 => h k (by omega) (by omega)⟩

end Ramses
