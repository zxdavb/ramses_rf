/-
  The `Py` monad in proofs.  Backwards: a `do` block returned, so each step did (`bind_ok`,
  `of_guard_ok`, `of_ite_eq`: applied by unification, one line per step of the Python function).
  Forwards: the equations that step a block whose head is known (`ok_bind`, `pure_eq`, `pyAssert_true`).  Which exceptions a
  block can raise at all: `Raises`, built along the text of the block.
-/
import Ramses.Model.Py
namespace Ramses
variable {α β : Type}

theorem ok_bind (a : α) (f : α → Py β) : Except.ok a >>= f = f a := rfl
theorem pure_eq (a : α) : (pure a : Py α) = .ok a := rfl
theorem pyAssert_true : pyAssert true = .ok () := rfl
theorem bind_ok_eq {ε α β} (a : α) (f : α → Except ε β) : (Except.ok a).bind f = f a := rfl

theorem bind_ok {x : Py α} {f : α → Py β} {b : β} : x >>= f = .ok b ↔ ∃ a, x = .ok a ∧ f a = .ok b := by
  cases x with
  | error e => exact ⟨fun h => (nomatch h), fun ⟨_, h, _⟩ => (nomatch h)⟩
  | ok a => exact ⟨fun h => ⟨a, rfl, h⟩, fun ⟨_, h, hf⟩ => by cases h; exact hf⟩

theorem map_ok {x : Py α} {f : α → β} {b : β} : x.map f = .ok b ↔ ∃ a, x = .ok a ∧ f a = b := by
  cases x with
  | error e => exact ⟨fun h => (nomatch h), fun ⟨_, h, _⟩ => (nomatch h)⟩
  | ok a => exact ⟨fun h => ⟨a, rfl, Except.ok.inj h⟩, fun ⟨_, h, hf⟩ => by cases h; exact congrArg _ hf⟩

theorem pyAssert_ok {c : Bool} {u : Unit} : pyAssert c = .ok u ↔ c = true := by
  cases c <;> simp [pyAssert]

/-- a guard `if bad then raise … else rest` was passed -/
theorem of_guard_ok {c : Prop} [Decidable c] {e : PyExn} {x : Py α} {r : α}
    (h : (if c then .error e else x) = .ok r) : ¬ c ∧ x = .ok r := by
  split at h
  · cases h
  · exact ⟨‹_›, h⟩

/-- a check `if not good then raise … else rest` was passed -/
theorem of_check_ok {c : Prop} [Decidable c] {e : PyExn} {x : Py α} {r : α}
    (h : (if ¬ c then .error e else x) = .ok r) : c ∧ x = .ok r :=
  ⟨Decidable.not_not.1 (of_guard_ok h).1, (of_guard_ok h).2⟩

theorem of_ite_eq {γ : Sort _} {c : Prop} [Decidable c] {a b r : γ} (h : (if c then a else b) = r) :
    c ∧ a = r ∨ ¬ c ∧ b = r := by
  split at h
  · exact .inl ⟨‹_›, h⟩
  · exact .inr ⟨‹_›, h⟩

/-- every exception `x` can raise satisfies `S` -/
def Raises (S : PyExn → Prop) (x : Py α) : Prop := ∀ e, x = .error e → S e

theorem Raises.ok {S : PyExn → Prop} (a : α) : Raises S (.ok a : Py α) := fun _ h => nomatch h

theorem Raises.error {S : PyExn → Prop} {e : PyExn} (h : S e) : Raises S (.error e : Py α) :=
  fun _ h' => by cases h'; exact h

theorem Raises.ite {S : PyExn → Prop} {c : Prop} [Decidable c] {t e : Py α}
    (ht : Raises S t) (he : Raises S e) : Raises S (if c then t else e) := by
  split <;> assumption

theorem Raises.mono {S T : PyExn → Prop} {x : Py α} (h : Raises S x) (hst : ∀ e, S e → T e) : Raises T x :=
  fun e he => hst e (h e he)

end Ramses
