/-
  Facts about core's `List`, `Option.or` and the cast `Nat → Int`, stated about variables only: what a
  property file needed of them and core does not have.  No import, no definition of any model.
-/
namespace Ramses

theorem mem_dropWhile {α} {p : α → Bool} {c : α} {s : List α} (hc : c ∈ s) (h : p c = false) :
    c ∈ s.dropWhile p := by
  induction s with
  | nil => cases hc
  | cons a as ih =>
    rw [List.dropWhile_cons]
    split
    · rename_i ha
      rcases List.mem_cons.1 hc with e | e
      · rw [e, ha] at h; cases h
      · exact ih e
    · exact hc

theorem countP_lt_countP {α} {p q : α → Bool} {l : List α} {a : α} (hpq : ∀ x ∈ l, p x → q x)
    (ha : a ∈ l) (hp : p a = false) (hq : q a = true) : l.countP p < l.countP q := by
  obtain ⟨l₁, l₂, rfl⟩ := List.append_of_mem ha
  have h₁ := List.countP_mono_left (l := l₁) fun x hx => hpq x (List.mem_append_left _ hx)
  have h₂ := List.countP_mono_left (l := l₂) fun x hx =>
    hpq x (List.mem_append_right _ (List.mem_cons_of_mem _ hx))
  rw [List.countP_append, List.countP_append, List.countP_cons, List.countP_cons, hp, hq]
  simp only [if_pos, Bool.false_eq_true, if_false]
  omega

theorem getLast?_filter_of_last {α} (l : List α) (q : α → Bool) (p : α) (h : l.getLast? = some p) (hq : q p = true) :
    (l.filter q).getLast? = some p := by
  obtain ⟨ys, rfl⟩ := List.getLast?_eq_some_iff.mp h
  rw [List.filter_append, List.filter_cons_of_pos hq, List.filter_nil, List.getLast?_concat]

theorem eq_of_nodup_map {f : α → β} {l : List α} (h : (l.map f).Nodup) {a b : α} (ha : a ∈ l) (hb : b ∈ l)
    (e : f a = f b) : a = b := by
  have hp := List.pairwise_map.1 h
  exact List.Pairwise.forall_of_forall_of_flip (R := fun x y => f x = f y → x = y) (fun _ _ _ => rfl)
    (hp.imp fun n e => absurd e n) (hp.imp fun n e => absurd e.symm n) ha hb e

theorem nodup_map_concat {f : α → β} {l : List α} {c : α} (h : (l.map f).Nodup) (hc : ∀ x ∈ l, f x ≠ f c) :
    ((l ++ [c]).map f).Nodup := by
  rw [List.map_append, List.nodup_append]
  exact ⟨h, List.pairwise_singleton _ _, fun a ha b hb => by
    obtain ⟨x, hx, rfl⟩ := List.mem_map.1 ha
    cases List.mem_singleton.1 hb; exact hc x hx⟩

theorem mapM_map_of_inv {α β} {f : α → β} {g : β → Option α} : ∀ {l : List α}, (∀ x ∈ l, g (f x) = some x) →
    (l.map f).mapM g = some l
  | [], _ => rfl
  | x :: l, h => by
    rw [List.map_cons, List.mapM_cons, h x List.mem_cons_self, mapM_map_of_inv fun y hy => h y (List.mem_cons_of_mem _ hy)]
    rfl

section or
variable {α : Type} {a b c f : Option α}

theorem or_of_ne_none (h : a ≠ none) : a.or b = a :=
  Option.or_of_isSome (Option.isSome_iff_ne_none.mpr h)

theorem or_some_ne_none (a : Option α) (d : α) : a.or (some d) ≠ none := by cases a <;> simp

theorem or_ok (ha : a = none ∨ a = c) (hb : b = none ∨ b = c) : a.or b = none ∨ a.or b = c := by
  cases a with
  | none => exact hb
  | some _ => exact ha

/-- at least what was kept when `c` was offered, at most `c`: it is `c` -/
theorem or_done (hle : a.or c ≠ none → f = a.or c) (hok : f = none ∨ f = c) : f = c := by
  cases c with
  | none => exact hok.elim id id
  | some d => exact hok.resolve_left fun h => or_some_ne_none a d ((hle (or_some_ne_none a d)).symm.trans h)
end or

theorem cast_sub_mul {a t : Nat} (h : a ≤ t) (r : Int) :
    ((t - a : Nat) : Int) * r = (t : Int) * r - (a : Int) * r := by
  rw [Int.ofNat_sub h, Int.sub_mul]

end Ramses
