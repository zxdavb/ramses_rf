/-
  Ramses.Model.Hex — hexadecimal text <-> numbers, as Python's f"{n:0wX}" and int(s, 16)
  behave on the strings the library handles (ASCII hex digits, either case on input).
-/
import Ramses.Model.Py
namespace Ramses

def hexDigit (n : Nat) : Char :=
  if n < 10 then Char.ofNat (48 + n) else Char.ofNat (55 + n)   -- '0'.. / 'A'..

def hexVal (c : Char) : Option Nat :=
  let n := c.toNat
  if 48 ≤ n ∧ n ≤ 57 then some (n - 48)
  else if 65 ≤ n ∧ n ≤ 70 then some (n - 55)
  else if 97 ≤ n ∧ n ≤ 102 then some (n - 87)
  else none

def isUpperHex (c : Char) : Bool :=
  let n := c.toNat
  (48 ≤ n && n ≤ 57) || (65 ≤ n && n ≤ 70)

def isDigit (c : Char) : Bool := 48 ≤ c.toNat && c.toNat ≤ 57

/-- exactly `w` upper-case hex digits of `n % 16^w`, most significant first -/
def toHexW : Nat → Nat → List Char
  | 0, _ => []
  | w + 1, n => toHexW w (n / 16) ++ [hexDigit (n % 16)]

/-- number of hex digits Python prints for `n` (at least 1) -/
def hexLen (n : Nat) : Nat := if n = 0 then 1 else Nat.log2 n / 4 + 1

/-- Python `f"{n:0{w}X}"` for `n ≥ 0`: at least `w` digits, more when `n` does not fit -/
def fmtHex (w n : Nat) : List Char := toHexW (max w (hexLen n)) n

def ofHexAux : List Char → Nat → Option Nat
  | [], acc => some acc
  | c :: cs, acc => match hexVal c with
    | some v => ofHexAux cs (acc * 16 + v)
    | none => none

/-- Python `int(s, 16)` on a non-empty string of hex digits (anything else: `none`,
    standing for `ValueError`; the library only calls it on regex-checked text) -/
def ofHex (s : List Char) : Option Nat := if s = [] then none else ofHexAux s 0

/-- zero-padded decimal of exactly `w` digits (`f"{n:0{w}d}"` for n < 10^w) -/
def toDecW : Nat → Nat → List Char
  | 0, _ => []
  | w + 1, n => toDecW w (n / 10) ++ [Char.ofNat (48 + n % 10)]

def ofDecAux : List Char → Nat → Option Nat
  | [], acc => some acc
  | c :: cs, acc => if isDigit c then ofDecAux cs (acc * 10 + (c.toNat - 48)) else none

def ofDec (s : List Char) : Option Nat := if s = [] then none else ofDecAux s 0

/-! ### inverse lemmas -/

theorem hexVal_hexDigit : ∀ n < 16, hexVal (hexDigit n) = some n := by decide

theorem isUpperHex_hexDigit : ∀ n < 16, isUpperHex (hexDigit n) = true := by decide

theorem toHexW_length (w n : Nat) : (toHexW w n).length = w := by
  induction w generalizing n with
  | zero => rfl
  | succ w ih => simp [toHexW, ih]

theorem ofHexAux_append (s t : List Char) (acc : Nat) :
    ofHexAux (s ++ t) acc = (ofHexAux s acc).bind (ofHexAux t) := by
  induction s generalizing acc with
  | nil => simp [ofHexAux]
  | cons c cs ih =>
    simp only [List.cons_append, ofHexAux]
    cases hexVal c with
    | none => simp
    | some v => simpa using ih _

theorem ofHexAux_toHexW (w n acc : Nat) :
    ofHexAux (toHexW w n) acc = some (acc * 16 ^ w + n % 16 ^ w) := by
  induction w generalizing n acc with
  | zero => simp [toHexW, ofHexAux, Nat.mod_one]
  | succ w ih =>
    simp only [toHexW, ofHexAux_append, ih, Option.bind_some, ofHexAux]
    rw [hexVal_hexDigit _ (Nat.mod_lt _ (by decide))]
    simp only [Option.some.injEq]
    have h1 : n % 16 ^ (w + 1) = 16 * (n / 16 % 16 ^ w) + n % 16 := by
      rw [Nat.pow_succ, Nat.mul_comm, Nat.mod_mul]; omega
    rw [h1, Nat.pow_succ]
    generalize n / 16 % 16 ^ w = a
    generalize 16 ^ w = b
    rw [Nat.add_mul, Nat.mul_assoc]
    omega

theorem ofHex_toHexW (w n : Nat) (hw : 0 < w) (h : n < 16 ^ w) :
    ofHex (toHexW w n) = some n := by
  unfold ofHex
  have : toHexW w n ≠ [] := by
    intro h0
    have := toHexW_length w n
    rw [h0] at this; simp at this; omega
  simp [this, ofHexAux_toHexW, Nat.mod_eq_of_lt h]

end Ramses
