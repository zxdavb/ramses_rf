/-
  C05 (continuation) — the fourth batch of payload parsers (Model/Parsers.lean, `parserD`): the
  list-valued ones decode element by element, and every index a decoded element carries is the
  index its own bytes carry.
-/
import Ramses.Props.C05
namespace Ramses.C05I

/-- `[f(x) for x in xs]` that did not raise: as many results as inputs, each the result of its own input -/
theorem mapM'_elementwise {α β} (f : α → Py β) : ∀ (xs : List α) (ys : List β), mapM' f xs = .ok ys →
    ys.length = xs.length ∧ ∀ i (hx : i < xs.length) (hy : i < ys.length), f xs[i] = .ok ys[i] := by
  intro xs
  fun_induction mapM' f xs with
  | case1 => exact fun ys h => by cases h; exact ⟨rfl, fun i hx => nomatch hx⟩
  | case2 | case3 =>  -- `f x` raised, or the rest of the list did: the whole is an error, never `.ok ys`
    nofun
  | case4 x xs y hx zs hr ih =>  -- `hx : f x = .ok y`, `hr : mapM' f xs = .ok zs`: the result is `y :: zs`
    intro ys h
    cases h
    obtain ⟨hl, he⟩ := ih zs hr
    refine ⟨congrArg (· + 1) hl, fun i hi hy => ?_⟩
    cases i with
    | zero => exact hx
    | succ k => exact he k (Nat.lt_of_succ_lt_succ hi) (Nat.lt_of_succ_lt_succ hy)

/-- **22F2 decodes element by element**: one dict per 6-character element, each carrying the index
    its own element starts with and the temperature its own four characters spell -/
theorem p22F2_elementwise (f : Frame) (ds : List Dict) (h : p22F2 f = .ok (.list ds)) :
    ds.length = (chunks 6 f.payload).length ∧
    ∀ i (hc : i < (chunks 6 f.payload).length) (hd : i < ds.length),
      ∃ t, jTemp ((chunks 6 f.payload)[i].drop 2) = .ok t ∧
        ds[i] = [("hvac_idx", Json.str ((chunks 6 f.payload)[i].take 2)), ("measure", t)] ∧
        ((chunks 6 f.payload)[i].take 2 = s "00" ∨ (chunks 6 f.payload)[i].take 2 = s "01") := by
  obtain ⟨_, hm, ⟨⟩⟩ := map_ok.1 h
  obtain ⟨hl, he⟩ := mapM'_elementwise _ _ _ hm
  refine ⟨hl, fun i hc hd => ?_⟩
  obtain ⟨_, ha, h⟩ := bind_ok.1 (he i hc hd)
  obtain ⟨t, ht, h⟩ := bind_ok.1 h
  exact ⟨t, ht, (Except.ok.inj h).symm, by simpa using pyAssert_ok.1 ha⟩

/-- **4E01**: one temperature per group announced by the frame's length byte, each the decode of its
    own four characters -/
theorem p4E01_groups (f : Frame) (d : Dict) (h : p4E01 f = .ok (.dict d)) :
    ∃ ts : List Json, d = [("temperatures", .arr ts)] ∧ ts.length = (f.blen - 2) / 2 ∧
      ∀ k (hk : k < (f.blen - 2) / 2) (ht : k < ts.length), jTemp (slice f.payload (2 + 4 * k) (6 + 4 * k)) = .ok ts[k] := by
  obtain ⟨_, -, h⟩ := bind_ok.1 h
  obtain ⟨_, -, h⟩ := bind_ok.1 h
  obtain ⟨_, -, h⟩ := bind_ok.1 h
  obtain ⟨ts, hts, h⟩ := bind_ok.1 h
  obtain ⟨hl, he⟩ := mapM'_elementwise _ _ _ hts
  rw [List.length_range] at hl
  refine ⟨ts, (Parsed.dict.inj (Except.ok.inj h)).symm, hl, fun k hk ht => ?_⟩
  have := he k (by rw [List.length_range]; exact hk) ht
  rwa [List.getElem_range] at this

/-- non-vacuity: two measurements; an eight-group Autotemp frame -/
example :
    (match p22F2 (frameFields "RP --- 32:155617 18:005904 --:------ 22F2 006 00019B010201".toList) with
     | .ok (.list [_, _]) => true
     | _ => false) = true ∧
    (match p4E01 (frameFields " I --- 02:248945 02:250708 --:------ 4E01 018 007FFF7FFF7FFF09077FFF7FFF7FFF7FFF00".toList) with
     | .ok (.dict [(_, .arr ts)]) => ts.length == 8
     | _ => false) = true := by decide +kernel

end Ramses.C05I
