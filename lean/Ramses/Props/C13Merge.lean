/-
  C13 (continuation) — "packets that are valid for other systems never stop the gateway from
  continuing to track the ones it knows", for the one place where the gateway keeps state *across
  devices*: the merging of two-packet arrays (Model/ArrayMerge.lean).

  Unbounded streams, any time stamps, any codes; by induction over the stream with a simulation
  relation between the run that hears everybody and the run that hears `own` only.
-/
import Ramses.Model.ArrayMerge
namespace Ramses.C13M
open Ramses.AM

theorem detect_true {m p : AMsg} (h : detect m p = true) :
    p.hasArray = true ∧ p.verbI = true ∧ m.src = p.src ∧ m.code = p.code := by
  simp only [detect, Bool.and_eq_true, beq_iff_eq, decide_eq_true_eq] at h
  obtain ⟨⟨⟨⟨⟨⟨h1, _⟩, h3⟩, _⟩, h5⟩, h6⟩, _⟩ := h
  exact ⟨h1, h5, h6, h3⟩

theorem detect_other_src {m p : AMsg} (h : m.src ≠ p.src) : detect m p = false := by
  cases hd : detect m p with
  | false => rfl
  | true => exact absurd (detect_true hd).2.2.1 h

/-- the previous message, if it is the first part of an array, is the head recorded for its key -/
def HeadInv (s : St) : Prop :=
  ∀ q, s.prev = some q → q.verbI = true → q.hasArray = true → lookup s.heads (q.src, q.code) = some q

theorem merged_src (s : St) (m : AMsg) : (merged s m).src = m.src := by
  unfold merged; split <;> rfl

theorem merged_code (s : St) (m : AMsg) : (merged s m).code = m.code := by
  unfold merged; split <;> rfl

theorem lookup_put_same (h : List (Key × AMsg)) (k : Key) (m : AMsg) : lookup (putHead h k m) k = some m :=
  if_pos rfl

theorem lookup_put_other (h : List (Key × AMsg)) (k k' : Key) (m : AMsg) (hne : k ≠ k') :
    lookup (putHead h k m) k' = lookup h k' :=
  if_neg hne

theorem headInv_init : HeadInv St.init := nofun

theorem headInv_step (s : St) (m : AMsg) : HeadInv (step s m) := by
  intro q hq hv ha
  injection hq with hq
  subst hq
  simp only [step, hv, ha, Bool.and_self, if_true, merged_src, merged_code]
  exact lookup_put_same _ _ _

/-- under `HeadInv` the previous message is redundant: the first part is looked up in the heads -/
theorem firstPart_heads {s : St} (hs : HeadInv s) (m : AMsg) :
    firstPart s m = match lookup s.heads (m.src, m.code) with
      | some p => if detect m p then some p else none
      | none => none := by
  unfold firstPart
  cases hp : s.prev with
  | none => rfl
  | some p =>
    by_cases hd : detect m p = true
    · obtain ⟨ha, hv, hsrc, hc⟩ := detect_true hd
      have := hs p hp hv ha
      rw [← hsrc, ← hc] at this
      simp only [if_pos hd, this]
    · simp only [if_neg hd]; rfl

/-- the simulation relation between the run that hears everybody and the run that hears `own` only:
    the same array heads for the devices in `own` -/
structure Rel (own : Nat → Bool) (s1 s2 : St) : Prop where
  heads : ∀ k : Key, own k.1 = true → lookup s1.heads k = lookup s2.heads k
  inv1 : HeadInv s1
  inv2 : HeadInv s2

theorem merged_eq (own : Nat → Bool) (s1 s2 : St) (r : Rel own s1 s2) (m : AMsg) (hm : own m.src = true) :
    merged s1 m = merged s2 m := by
  unfold merged; rw [firstPart_heads r.inv1, firstPart_heads r.inv2, r.heads (m.src, m.code) hm]

theorem rel_step_own (own : Nat → Bool) (s1 s2 : St) (r : Rel own s1 s2) (m : AMsg) (hm : own m.src = true) :
    Rel own (step s1 m) (step s2 m) := by
  refine ⟨fun k hk => ?_, headInv_step s1 m, headInv_step s2 m⟩
  simp only [step, merged_eq own s1 s2 r m hm]
  split
  · by_cases hkk : (m.src, m.code) = k
    · subst hkk; simp [lookup_put_same]
    · rw [lookup_put_other _ _ _ _ hkk, lookup_put_other _ _ _ _ hkk]; exact r.heads k hk
  · exact r.heads k hk

theorem rel_step_foreign (own : Nat → Bool) (s1 s2 : St) (r : Rel own s1 s2) (f : AMsg) (hf : own f.src = false) :
    Rel own (step s1 f) s2 := by
  refine ⟨fun k hk => ?_, headInv_step s1 f, r.inv2⟩
  simp only [step]
  split
  · have hkk : (f.src, f.code) ≠ k := by
      intro e; rw [← e] at hk; simp [hf] at hk
    rw [lookup_put_other _ _ _ _ hkk]; exact r.heads k hk
  · exact r.heads k hk

theorem run_rel (own : Nat → Bool) (l : List AMsg) : ∀ (s1 s2 : St), Rel own s1 s2 →
    (run s1 l).filter (fun m => own m.src) = run s2 (l.filter (fun m => own m.src)) := by
  induction l with
  | nil => intro s1 s2 _; rfl
  | cons m r ih =>
    intro s1 s2 rel
    by_cases hm : own m.src = true
    · simp only [run, List.filter_cons, merged_src, hm, if_true]
      rw [merged_eq own s1 s2 rel m hm, ih _ _ (rel_step_own own s1 s2 rel m hm)]
    · have hf : own m.src = false := by simpa using hm
      simp only [run, List.filter_cons, merged_src, hf]
      exact ih _ _ (rel_step_foreign own s1 s2 rel m hf)

/-- **Neighbour independence of array merging.**  Whatever else is received, and whenever, the
    messages of the devices in `own` are delivered exactly as if nothing else had been received. -/
theorem own_independent (own : Nat → Bool) (l : List AMsg) :
    (run St.init l).filter (fun m => own m.src) = run St.init (l.filter (fun m => own m.src)) :=
  run_rel own l St.init St.init ⟨fun _ _ => rfl, headInv_init, headInv_init⟩

/-- the two parts of an array are merged although another device's packet arrives in between
    (the defect repaired by 5ad1be7), and the other device's packet is delivered untouched -/
example :
    let a1 : AMsg := ⟨1, 10, true, true, 0, [0, 1, 2, 3], true⟩
    let f : AMsg := ⟨2, 30, true, false, 37000, [0], false⟩
    let a2 : AMsg := ⟨1, 10, true, false, 2000000, [4], true⟩
    (run St.init [a1, f, a2]).map (·.elems) = [[0, 1, 2, 3], [0], [0, 1, 2, 3, 4]] := by decide +kernel

/-- a neighbour's array right before ours is *not* merged into ours (another source) -/
example :
    let b : AMsg := ⟨9, 10, true, true, 0, [0, 1, 2, 3, 4], true⟩
    let a : AMsg := ⟨1, 10, true, false, 1500000, [1], true⟩
    (run St.init [b, a]).map (·.elems) = [[0, 1, 2, 3, 4], [1]] := by decide +kernel

/-- non-vacuity: the second part is too late after 3 s -/
example :
    let a1 : AMsg := ⟨1, 10, true, true, 0, [0, 1], true⟩
    let a2 : AMsg := ⟨1, 10, true, false, 3000000, [2], true⟩
    (run St.init [a1, a2]).map (·.elems) = [[0, 1], [2]] := by decide +kernel

end Ramses.C13M
