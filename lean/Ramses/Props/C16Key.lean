/-
  C16 (continuation) — the snapshot's own text format: an entry `{repr(pkt)[:26]: repr(pkt)[27:]}` restores
  to the same time stamp (to the microsecond, for every valid date-time, years 1-9999) and the same text.
-/
import Ramses.Props.C02Log
namespace Ramses.C16Key
open Ramses.LogLine

/-- a saved-state entry reads back as the packet it was made from -/
theorem entry_restores (t : Stamp) (rest : List Char) (hv : t.valid = true) :
    parseStamp (snapEntry t rest).1 = some t ∧ (snapEntry t rest).2 = rest :=
  C02Log.snapEntry_restores t rest hv

/-- two packets with different time stamps have different keys (keys are what makes the snapshot a set) -/
theorem key_injective (t u : Stamp) (r1 r2 : List Char) (ht : t.valid = true) (hu : u.valid = true)
    (h : (snapEntry t r1).1 = (snapEntry u r2).1) : t = u := by
  -- each key parses back to its stamp, and the keys are the same
  have a : parseStamp (snapEntry t r1).1 = some t := (C02Log.snapEntry_restores t r1 ht).1
  have b : parseStamp (snapEntry u r2).1 = some u := (C02Log.snapEntry_restores u r2 hu).1
  rw [h, b] at a
  exact (Option.some.inj a).symm

end Ramses.C16Key
