/-
  C11 (continuation) — "regulation only delays writes": the sync-cycle avoidance in front of every
  serial write terminates, however many sync announcements are remembered and whatever their
  times; announcements whose time has passed never hold a write back.
-/
import Ramses.Model.SyncAvoid
import Ramses.Proofs.Basic
namespace Ramses.C11Sync
open Ramses.Sync

/-- syncs that can still become or be imminent at `now` -/
def ahead (now : Nat) (syncs : List Nat) : Nat := syncs.countP (fun s => decide (now + winLower < s))

variable {syncs : List Nat} {now : Nat}

theorem imminent_iff {s : Nat} : imminent now s = true ↔ now + winLower < s ∧ s < now + winUpper := by
  rw [imminent, Bool.and_eq_true, decide_eq_true_iff, decide_eq_true_iff]

theorem any_imminent_eq_false :
    syncs.any (imminent now) = false ↔ ∀ s ∈ syncs, s ≤ now + winLower ∨ now + winUpper ≤ s := by
  simp only [List.any_eq_false, imminent_iff, Decidable.not_and_iff_not_or_not, Nat.not_lt]

theorem waitN_clear (fuel : Nat) (h : syncs.any (imminent now) = false) : waitN (fuel + 1) now syncs = some now := by
  rw [waitN, h]; rfl

theorem waitN_busy (fuel : Nat) (h : syncs.any (imminent now) = true) :
    waitN (fuel + 1) now syncs = waitN fuel (now + waitShort) syncs := by
  rw [waitN, h]; rfl

/-- a write is never held back by announcements whose time has passed (or is within the lower window) -/
theorem overdue_never_blocks (now : Nat) (syncs : List Nat) (fuel : Nat) (h : ∀ s ∈ syncs, s ≤ now + winLower) :
    waitN (fuel + 1) now syncs = some now :=
  waitN_clear fuel (any_imminent_eq_false.2 fun s hs => .inl (h s hs))

/-- ... nor by syncs that are far enough in the future -/
theorem far_never_blocks (now : Nat) (syncs : List Nat) (fuel : Nat) (h : ∀ s ∈ syncs, now + winUpper ≤ s) :
    waitN (fuel + 1) now syncs = some now :=
  waitN_clear fuel (any_imminent_eq_false.2 fun s hs => .inr (h s hs))

/-- the loop is left at the first poll instant at which nothing is imminent -/
theorem waitN_eq_find (syncs : List Nat) : ∀ fuel now, waitN fuel now syncs =
    ((List.range fuel).map (now + · * waitShort)).find? (fun t => !syncs.any (imminent t))
  | 0, _ => rfl
  | fuel + 1, now => by
    -- the poll instants from `now`: `now` itself, then those from one poll later
    -- (by rewriting: a `show` of the shifted sum makes the kernel multiply by the literal `waitShort`)
    have hpolls : (List.range (fuel + 1)).map (now + · * waitShort) =
        now :: (List.range fuel).map (now + waitShort + · * waitShort) := by
      rw [List.range_succ_eq_map, List.map_cons, List.map_map, Nat.zero_mul, Nat.add_zero]
      refine congrArg _ (List.map_congr_left fun k _ => ?_)
      rw [Function.comp_apply, Nat.succ_mul, Nat.add_assoc, Nat.add_comm waitShort]
    rw [hpolls, List.find?_cons, waitN, waitN_eq_find syncs fuel]
    cases syncs.any (imminent now) <;> rfl

theorem waitN_some {fuel now t : Nat} (h : waitN fuel now syncs = some t) :
    ∃ k < fuel, t = now + k * waitShort ∧ syncs.any (imminent t) = false := by
  rw [waitN_eq_find] at h
  obtain ⟨k, hk, rfl⟩ := List.mem_map.1 (List.mem_of_find?_eq_some h)
  exact ⟨k, List.mem_range.1 hk, rfl, by simpa using List.find?_some h⟩

/-- when the loop is left, no remembered sync is imminent: the write does not start inside a sync window -/
theorem exit_is_clear : ∀ (fuel now : Nat) (syncs : List Nat) (t : Nat), waitN fuel now syncs = some t →
    syncs.any (imminent t) = false ∧ now ≤ t := by
  intro fuel now syncs t h
  obtain ⟨k, -, rfl, hc⟩ := waitN_some h
  exact ⟨hc, Nat.le_add_right _ _⟩

theorem ahead_lt {a b s : Nat} (hs : s ∈ syncs) (hab : a ≤ b) (ha : a + winLower < s) (hb : s ≤ b + winLower) :
    ahead b syncs < ahead a syncs :=
  countP_lt_countP (fun x _ hx => by rw [decide_eq_true_iff] at *; omega) hs
    (decide_eq_false (by omega)) (decide_eq_true ha)

/-- if `n` polls take the clock past a sync's window, one of the first `n * m + 1` poll instants is clear when
    at most `m` syncs are still ahead: `n` polls after a busy instant the sync that was imminent there is behind -/
theorem clear_within {n : Nat} (hn : winUpper ≤ winLower + n * waitShort) (syncs : List Nat) :
    ∀ m now, ahead now syncs ≤ m → ∃ k ≤ n * m, syncs.any (imminent (now + k * waitShort)) = false := by
  intro m
  induction m with
  | zero =>
    intro now h
    -- no sync is ahead, so none is imminent
    have h0 := List.countP_eq_zero.1 (Nat.le_zero.1 h)
    exact ⟨0, Nat.le_refl _, any_imminent_eq_false.2 fun s hs => .inl (by simpa using h0 s hs)⟩
  | succ m ih =>
    intro now h
    cases hb : syncs.any (imminent now) with
    | false => exact ⟨0, Nat.zero_le _, by rwa [Nat.zero_mul]⟩
    | true =>
      -- some `s` is imminent at `now`; `n` polls later it is behind, so fewer syncs are ahead there
      obtain ⟨s, hs, hi⟩ := List.any_eq_true.1 hb
      have ⟨h1, h2⟩ := imminent_iff.1 hi
      have hpast : s ≤ now + n * waitShort + winLower := by omega
      have hfewer : ahead (now + n * waitShort) syncs < ahead now syncs :=
        ahead_lt hs (Nat.le_add_right now (n * waitShort)) h1 hpast
      obtain ⟨k, hk, hc⟩ := ih (now + n * waitShort) (Nat.le_of_lt_succ (Nat.lt_of_lt_of_le hfewer h))
      -- the clear poll `k` counted from there is poll `n + k` counted from `now`
      have hle : n + k ≤ n * (m + 1) := by rw [Nat.mul_succ]; omega
      rw [Nat.add_assoc, ← Nat.add_mul] at hc
      exact ⟨n + k, hle, hc⟩

theorem waitN_within {n : Nat} (hn : winUpper ≤ winLower + n * waitShort) (syncs : List Nat) (m now : Nat)
    (h : ahead now syncs ≤ m) : ∃ t, waitN (n * m + 1) now syncs = some t ∧ t ≤ now + n * m * waitShort := by
  obtain ⟨k, hk, hc⟩ := clear_within hn syncs m now h
  -- a clear instant among the polls: the search finds one, and what it finds is a poll instant
  have hfound : (waitN (n * m + 1) now syncs).isSome := by
    rw [waitN_eq_find, List.find?_isSome]
    exact ⟨_, List.mem_map.2 ⟨k, List.mem_range.2 (Nat.lt_succ_of_le hk), rfl⟩, by rw [hc]; rfl⟩
  obtain ⟨t, ht⟩ := Option.isSome_iff_exists.1 hfound
  obtain ⟨j, hj, rfl, -⟩ := waitN_some ht
  exact ⟨_, ht, Nat.add_le_add_left (Nat.mul_le_mul_right _ (Nat.le_of_lt_succ hj)) _⟩

/-- the one fact about the generated constants that termination rests on: a sync's window (100.8 ms wide)
    is passed in 11 polls (of 10 ms) -/
theorem window_11_polls : winUpper ≤ winLower + 11 * waitShort := by decide

/-- **the wait always ends**: with `m` remembered syncs still ahead, the loop is left within `11·m`
    polls (each sync is imminent for less than 11 polls: its window is 100.8 ms wide, a poll is 10 ms) -/
theorem wait_terminates (syncs : List Nat) : ∀ (m now : Nat), ahead now syncs ≤ m →
    ∃ t, waitN (11 * m + 1) now syncs = some t ∧ t ≤ now + (11 * m) * waitShort :=
  waitN_within window_11_polls syncs

theorem writeAt_of_waitN {fuel start t : Nat} (h : waitN fuel start syncs = some t) :
    ∃ t', writeAt start syncs fuel = some t' ∧ t ≤ t' ∧ t' ≤ t + waitLong := by
  refine ⟨if t - start > waitShort then t + waitLong else t, by rw [writeAt, h]; rfl, ?_⟩
  split <;> omega

theorem writeAt_within {n : Nat} (hn : winUpper ≤ winLower + n * waitShort) {m start : Nat}
    (h : ahead start syncs ≤ m) :
    ∃ t, writeAt start syncs (n * m + 1) = some t ∧ start ≤ t ∧ t ≤ start + n * m * waitShort + waitLong := by
  obtain ⟨t, ht, hle⟩ := waitN_within hn syncs m start h
  obtain ⟨t', ht', h1, h2⟩ := writeAt_of_waitN ht
  have := (exit_is_clear _ _ _ _ ht).2
  exact ⟨t', ht', by omega, by omega⟩

/-- with the three announcements the tracker keeps at most, a write is delayed by at most
    33 polls (0.33 s) plus the long wait -/
theorem write_delay_bound (start : Nat) (syncs : List Nat) (h : syncs.length ≤ 3) :
    ∃ t, writeAt start syncs 34 = some t ∧ start ≤ t ∧ t ≤ start + 33 * waitShort + waitLong :=
  writeAt_within window_11_polls (Nat.le_trans List.countP_le_length h)

theorem track_le_max (now : Nat) (tracked : List (Nat × Nat)) (src sync : Nat) (h : tracked.length ≤ maxTracked) :
    (track now tracked src sync).length ≤ maxTracked := by
  have hk := List.length_filter_le (fun p => p.1 ≠ src && pending now p.2) tracked
  rw [track]
  split
  · rw [List.length_drop, List.length_append, List.length_singleton]; omega
  · omega

/-- the tracker never keeps more than three announcements -/
theorem track_le_three (now : Nat) (tracked : List (Nat × Nat)) (src sync : Nat) (h : tracked.length ≤ 3) :
    (track now tracked src sync).length ≤ 3 :=
  track_le_max now tracked src sync h

/-- without the lower bound of the window (`next_sync - now < UPPER` alone) an announcement whose
    time has passed holds every write back for ever: the loop is never left, whatever the fuel -/
theorem unbounded_below_blocks_witness :
    let imm' (now sync : Nat) : Bool := decide (sync < now + winUpper)
    ∀ k ≤ 50, imm' (1000000 + k * waitShort) 500000 = true := by
  intro imm' k _
  exact decide_eq_true (by omega)

/-- non-vacuity: a sync 50 ms ahead holds the write for 5 polls; the long wait follows -/
example : waitN 34 0 [50000] = some 50000 ∧ writeAt 0 [50000] 34 = some 134000 := by decide +kernel

end Ramses.C11Sync
