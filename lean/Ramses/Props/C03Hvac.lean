/-
  C03 (continuation) — the faked HVAC sensors' constructors against their own decoders:
  `put_outdoor_temp` (I|1290), `put_co2_level` (I|1298), `put_indoor_humidity` (I|12A0).
  For every value on the wire grid that is not a sentinel word the payload built decodes, through
  the library's own parser of that code, to the value passed in.  (The sentinel words - 7FFF for all
  three, 31FF for temperatures - are the library's "not available": a temperature of 127.99 or
  327.67 reads back as unknown; that is the wire format, see C04.temp_sentinels.)
-/
import Ramses.Props.C04
import Ramses.Model.Builders
import Ramses.Proofs.ParserLemmas
namespace Ramses.C03H
open Ramses.C04

/-- the first two of the four hex digits of a 16-bit word are the hex of its high byte -/
theorem take2_word (w : Nat) (hw : w < 65536) : (fmtHex 4 w).take 2 = fmtHex 2 (w / 256) :=
  fmtHex_take 2 2 w (by decide) hw

theorem hi_of_word (w : Nat) (hw : w < 65536) : pyInt16 ((fmtHex 4 w).take 2) = .ok (w / 256) := by
  rw [take2_word w hw, pyInt16_fmtHex 2 (w / 256)]

/-- **put_outdoor_temp / parser_1290**: every HVAC temperature on the grid (−272.99 … 327.66, the two
    sentinel words apart) is encoded as its word and that word decodes to it -/
theorem outdoorTemp_roundtrip (name : String) (k : Int) (h1 : -27300 < k) (h2 : k ≤ 32767) (hs1 : k ≠ 12799) (hs2 : k ≠ 32767) :
    hexFromTemp (tempOfCenti k) = .ok (word k) ∧
    hvacTemp name (word k) = .ok [(name, jsonOfTemp (tempOfCenti k))] := by
  have h1' : -32768 ≤ k := by omega
  refine ⟨temp_encode k h1' h2, ?_⟩
  obtain ⟨hw, hsigned, hne⟩ := wnat_spec h1' h2
  -- `k` is neither sentinel value, so its word is neither sentinel word
  have e1 : fmtHex 4 (wnat k) ≠ s "7FFF" := fmtHex_ne (m := 0x7FFF) (by decide) (hne 0x7FFF (by decide) hs2)
  have e2 : fmtHex 4 (wnat k) ≠ s "31FF" := fmtHex_ne (m := 0x31FF) (by decide) (hne 0x31FF (by decide) hs1)
  -- a high nibble 8 ("faulted sensor") is a value from -327.68 to -286.73, and `k` (the signed reading, `hsigned`) is above -273.00
  have h8 : ¬ wnat k / 256 / 16 = 8 := by omega
  have hlo : ¬ k ≤ -27300 := by omega
  unfold hvacTemp
  rw [C04.word_eq, if_neg (not_not_intro (fmtHex_length 4 (wnat k))), if_neg (by simp [e1, e2]),
    hi_of_word _ (by omega), ok_bind, if_neg h8, pyInt16_fmtHex 4 (wnat k), ok_bind]
  rw [hsigned, if_neg hlo]
  rfl

/-- every value below the sentinel word 7FFF -/
theorem co2_word (n : Nat) (h : n < 0x7FFF) :
    hexFromDouble (some ⟨n, 0⟩) 1 = .ok (fmtHex 4 n) ∧ co2Level (fmtHex 4 n) = .ok [("co2_level", jNat n)] := by
  constructor
  · have hr := round_mulInt_nat (n := n) (f := 1) (by omega)
    rw [Nat.mul_one] at hr
    unfold hexFromDouble
    simp only [hr]
    rw [if_neg (by omega)]
  · unfold co2Level
    have hne : fmtHex 4 n ≠ s "7FFF" := fmtHex_ne (m := 0x7FFF) (by decide) (by omega)
    rw [if_neg (not_not_intro (fmtHex_length 4 n)), if_neg hne, pyInt16_fmtHex 4 n,
      ok_bind, hi_of_word n (by omega), ok_bind, if_neg (by simp; omega)]
    rfl

/-- **put_co2_level / parser_1298**: every whole ppm value up to 8191 is written as its word, and every word below 7FFF is read
    back as its value -/
theorem co2_roundtrip (n : Nat) (h : n < 8192) :
    hexFromDouble (some ⟨n, 0⟩) 1 = .ok (fmtHex 4 n) ∧ co2Level (fmtHex 4 n) = .ok [("co2_level", jNat n)] :=
  co2_word n (by omega)

/-- **put_indoor_humidity / parser_12A0**: every whole percent 0 … 100 is written as its byte, and that byte (with no
    temperature / dew point following) is read back as the same ratio -/
theorem humidity_roundtrip (name : String) (k : Nat) (hk : k ≤ 100) :
    hexFromPercent (some (divInt k 100)) false = .ok (fmtHex 2 k) ∧
    hvacHumidity name (fmtHex 2 k) [] [] = .ok [(name, .num false (divInt k 100))] := by
  refine ⟨(percent_enc_dec false k hk).1, ?_⟩
  unfold hvacHumidity
  rw [if_neg (not_not_intro (fmtHex_length 2 k)), if_neg (by simp), if_neg (by simp),
    if_neg (fmtHex_ne (m := 0xEF) (by decide) (by omega)), pyInt16_fmtHex 2 k, ok_bind, if_neg (by omega),
    decide_eq_true hk]
  rfl

/-- non-vacuity: the whole constructor, through the frame it builds and the decoder's own dispatch -/
example :
    (match putOutdoorTemp "37:111111".toList (some (true, divInt 550 100)) with
     | .ok f => (match decode f with
        | .ok (.obj d) => (match d.lookup "outdoor_temp" with | some (.num true v) => decide (v = divInt 550 100) | _ => false)
        | _ => false)
     | _ => false) = true := by decide +kernel

example :
    (match putCo2Level "37:111111".toList (some (false, divInt 801 2)) with      -- 400.5 ppm rounds to even: 400
     | .ok f => (match decode f with
        | .ok (.obj d) => (match d.lookup "co2_level" with | some (.int n) => decide (n = 400) | _ => false)
        | _ => false)
     | _ => false) = true := by decide +kernel

end Ramses.C03H
