/-
  C06 (continuation) — schedule fragments (0404): the stored hot water's schedule goes by index
  byte 00 on the wire, exactly like zone 00's; what keeps the two exchanges apart is the `HW`
  the header context carries for a payload of type 23.
-/
import Ramses.Props.C06
namespace Ramses.C06S
open Ramses.C06

/-- the index of a 0404 payload: HW for the stored hot water, else the zone -/
def idx0404 (p : List Char) : List Char := if slice p 2 4 = "23".toList then "HW".toList else p.take 2

theorem pktIdx_0404 (f : HCore) (h : isCode f "0404" = true) (arr : Py Bool) :
    pktIdxWith f arr = .ok (.str (idx0404 f.payload)) := by
  unfold pktIdxWith
  simp only [isCode_other h (c' := "0005") (by decide), isCode_other h (c' := "0009") (by decide),
    isCode_other h (c' := "000C") (by decide), h, Bool.false_eq_true, if_false, Bool.false_and, if_true, idx0404]

/-- the context of a 0404 frame (first or later access alike): index, then the fragment number -/
theorem ctx_0404 (f : HCore) (h : isCode f "0404" = true) (hne : f.payload ≠ []) (arr : Py Bool) :
    ctxWith f ((pktIdxWith f arr).map idxOf) = .ok (.str (idx0404 f.payload ++ slice f.payload 10 12)) := by
  -- the index is not empty, so `idxOf` (Python's `or False`) leaves it as it is
  obtain ⟨a, r, hi⟩ : ∃ a r, idx0404 f.payload = a :: r := by
    unfold idx0404
    split
    · exact ⟨_, _, rfl⟩
    · match f.payload, hne with
      | a :: r, _ => exact ⟨a, r.take 1, rfl⟩
  unfold ctxWith
  simp only [pktIdx_0404 f h arr, isCode_other h (c' := "0005") (by decide), isCode_other h (c' := "000C") (by decide),
    h, Bool.false_eq_true, Bool.or_self, if_false, if_true, Except.map, hi, idxOf]

theorem slice23_ne_nil {p : List Char} (h : slice p 2 4 = "23".toList) : p ≠ [] := by
  intro e; rw [e] at h; cases h

/-- a DHW fragment and a zone fragment never have the same context - whatever the zone (its index
    is two hex digits, never `HW`), whatever the fragment numbers -/
theorem dhw_zone_ctx_differ (f g : HCore) (hf : isCode f "0404" = true) (hg : isCode g "0404" = true)
    (hfd : slice f.payload 2 4 = "23".toList) (hgz : slice g.payload 2 4 ≠ "23".toList)
    (hgh : g.payload.head? ≠ some 'H') (hgne : g.payload ≠ []) (a b : Py Bool) :
    ctxWith f ((pktIdxWith f a).map idxOf) ≠ ctxWith g ((pktIdxWith g b).map idxOf) := by
  rw [ctx_0404 f hf (slice23_ne_nil hfd) a, ctx_0404 g hg hgne b]
  intro e
  have e := Idx.str.inj (Except.ok.inj e)
  unfold idx0404 at e
  rw [if_pos hfd, if_neg hgz] at e
  cases hp : g.payload with
  | nil => exact absurd hp hgne
  | cons c r =>
    rw [hp] at e hgh
    -- both texts start with a character: `H`, and the zone payload's first
    exact hgh (congrArg some (List.cons.inj e).1.symm)

theorem reply_0404_ctx (q r : Frame) (hq : isCode q.core "0404" = true) (hr : isCode r.core "0404" = true)
    (hq1 : q.verb ≠ vI) (hq2 : q.verb ≠ vRP) (hq3 : q.src ≠ q.dst)
    (lq : q.code.length = 4 ∧ q.dst.length = 9) (lr : r.code.length = 4 ∧ r.verb.length = 2 ∧ (hdrDev r).length = 9)
    (hqne : q.payload ≠ []) (hrne : r.payload ≠ [])
    (h : List Char) (hrx : rxHeader q = .ok (some h)) (htx : txHeader r = .ok h) :
    ctxLater q.core = ctxFirst r.core := by
  have key := (reply_header_sound q r (isCode_other hq (by decide)) (isCode_other hr (by decide))
    hq1 hq2 hq3 lq lr h hrx htx).2.2.2
  unfold ctxFirst ctxLater at key ⊢
  rw [ctx_0404 q.core hq hqne, ctx_0404 r.core hr hrne] at key ⊢
  rw [Option.some.inj (Except.ok.inj key)]

/-- **the DHW's request is never answered by a zone's fragment**: an RP|0404 about a zone does not
    carry the header the request for the stored hot water's fragment waits for -/
theorem dhw_request_not_answered_by_zone (q r : Frame) (hq : isCode q.core "0404" = true) (hr : isCode r.core "0404" = true)
    (hq1 : q.verb ≠ vI) (hq2 : q.verb ≠ vRP) (hq3 : q.src ≠ q.dst)
    (lq : q.code.length = 4 ∧ q.dst.length = 9) (lr : r.code.length = 4 ∧ r.verb.length = 2 ∧ (hdrDev r).length = 9)
    (hqd : slice q.payload 2 4 = "23".toList) (hrz : slice r.payload 2 4 ≠ "23".toList)
    (hrh : r.payload.head? ≠ some 'H') (hrne : r.payload ≠ [])
    (h : List Char) (hrx : rxHeader q = .ok (some h)) : txHeader r ≠ .ok h := fun htx =>
  dhw_zone_ctx_differ q.core r.core hq hr hqd hrz hrh hrne _ _
    (reply_0404_ctx q r hq hr hq1 hq2 hq3 lq lr (slice23_ne_nil hqd) hrne h hrx htx)

/-- ... and the other way round: a zone's request is never answered by the DHW's fragment -/
theorem zone_request_not_answered_by_dhw (q r : Frame) (hq : isCode q.core "0404" = true) (hr : isCode r.core "0404" = true)
    (hq1 : q.verb ≠ vI) (hq2 : q.verb ≠ vRP) (hq3 : q.src ≠ q.dst)
    (lq : q.code.length = 4 ∧ q.dst.length = 9) (lr : r.code.length = 4 ∧ r.verb.length = 2 ∧ (hdrDev r).length = 9)
    (hqz : slice q.payload 2 4 ≠ "23".toList) (hqh : q.payload.head? ≠ some 'H') (hqne : q.payload ≠ [])
    (hrd : slice r.payload 2 4 = "23".toList)
    (h : List Char) (hrx : rxHeader q = .ok (some h)) : txHeader r ≠ .ok h := fun htx =>
  dhw_zone_ctx_differ r.core q.core hr hq hrd hqz hqh hqne _ _
    (reply_0404_ctx q r hq hr hq1 hq2 hq3 lq lr hqne (slice23_ne_nil hrd) h hrx htx).symm

/-- non-vacuity: the request for the first fragment of the stored hot water's schedule, zone 00's
    first fragment, and the hot water's own: the former does not carry the awaited header, the latter does -/
example :
    let q := frameFields "RQ --- 18:000730 01:145038 --:------ 0404 007 00230008000100".toList
    let z := frameFields "RP --- 01:145038 18:006402 --:------ 0404 012 0020000805010168816B00CD".toList
    let d := frameFields "RP --- 01:145038 18:006402 --:------ 0404 012 0023000805010168816B00CD".toList
    rxHeader q = .ok (some "0404|RP|01:145038|HW01".toList) ∧ txHeader z = .ok "0404|RP|01:145038|0001".toList ∧
    txHeader d = .ok "0404|RP|01:145038|HW01".toList ∧
    slice q.payload 2 4 = "23".toList ∧ slice z.payload 2 4 ≠ "23".toList ∧ z.payload.head? ≠ some 'H' := by decide +kernel

end Ramses.C06S
