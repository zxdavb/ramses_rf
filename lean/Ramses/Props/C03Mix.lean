/-
  C03 (continuation) — set_mix_valve_params: the five parameters decode back, for every in-range
  tuple (0-99, 0-50, 0-240, 0-99, and any byte for boolean_cc) and every zone index.
-/
import Ramses.Props.C03
import Ramses.Proofs.ParserLemmas
namespace Ramses.C03Mix

def mixNames : List (String × String) :=
  [("20", "unknown_20"), ("21", "unknown_21"), ("C8", "max_flow_setpoint"), ("C9", "min_flow_setpoint"),
   ("CA", "valve_run_time"), ("CB", "pump_run_time"), ("CC", "boolean_cc")]

/-- one parameter as the builder writes it (`hd` is the id followed by `01`): two characters for the value,
    and a record that the decoder reads as the parameter's name and value -/
theorem mixRecord (hd idc : List Char) (name : String) (n : Int) (hn : 0 ≤ n ∧ n ≤ 255) (hhd : hd = idc ++ "01".toList)
    (hid : idc.length = 2) (hlk : lookupS mixNames idc = some name) :
    (fmtX 2 n).length = 2 ∧ p1030Elem (hd ++ fmtX 2 n) = .ok (name, jNat n.toNat) := by
  subst hhd
  rw [fmtX, if_neg (by omega)]
  refine ⟨fmtHex_length 2 n.toNat, ?_⟩
  obtain ⟨e_id, c2⟩ := field_first (List.append_assoc idc "01".toList (fmtHex 2 n.toNat)) hid
  obtain ⟨e_01, e_v⟩ := field_at (b := 4) (x := "01".toList) c2 rfl
  unfold mixNames at hlk
  unfold p1030Elem
  simp only [e_id, e_01, e_v, hlk, pyInt16_fmtHex 2 n.toNat, ok_bind, pure_eq]
  rfl

/-- **W|1030 round trip**: every in-range parameter tuple decodes to itself -/
theorem setMixValveParams_roundtrip (ctl : List Char) (idx : IdxArg) (a b v pr cc : Int) (f : Frame)
    (hcc : 0 ≤ cc ∧ cc ≤ 255) (h : setMixValveParams ctl idx a b v pr cc = .ok f) :
    f.verb = vW ∧ f.code = "1030".toList ∧
    p1030 f = .ok (.dict [("max_flow_setpoint", jNat a.toNat), ("min_flow_setpoint", jNat b.toNat), ("valve_run_time", jNat v.toNat),
      ("pump_run_time", jNat pr.toNat), ("boolean_cc", jNat cc.toNat)]) := by
  unfold setMixValveParams at h
  obtain ⟨i, hi, h⟩ := bind_ok.1 h
  -- four range checks (each `throw` is bound to the rest of the block: still an error)
  obtain ⟨ha, h⟩ := of_check_ok h
  obtain ⟨hb, h⟩ := of_check_ok h
  obtain ⟨hv, h⟩ := of_check_ok h
  obtain ⟨hp, h⟩ := of_check_ok h
  have hil := C03.checkIdx_length idx i hi
  obtain ⟨la, ea⟩ := mixRecord "C801".toList "C8".toList "max_flow_setpoint" a ⟨ha.1, by omega⟩ rfl rfl rfl
  obtain ⟨lb, eb⟩ := mixRecord "C901".toList "C9".toList "min_flow_setpoint" b ⟨hb.1, by omega⟩ rfl rfl rfl
  obtain ⟨lv, ev⟩ := mixRecord "CA01".toList "CA".toList "valve_run_time" v ⟨hv.1, by omega⟩ rfl rfl rfl
  obtain ⟨lp, ep⟩ := mixRecord "CB01".toList "CB".toList "pump_run_time" pr ⟨hp.1, by omega⟩ rfl rfl rfl
  obtain ⟨lc, ec⟩ := mixRecord "CC01".toList "CC".toList "boolean_cc" cc hcc rfl rfl rfl
  -- the payload is the index, then the five records
  let es : List (List Char) := ["C801".toList ++ fmtX 2 a, "C901".toList ++ fmtX 2 b, "CA01".toList ++ fmtX 2 v,
    "CB01".toList ++ fmtX 2 pr, "CC01".toList ++ fmtX 2 cc]
  replace h : fromAttrsDest vW ctl "1030".toList (i ++ es.flatten) = .ok f := by simpa [es] using h
  have hlen : (i ++ es.flatten).length = 32 := by
    simp [es, hil, la, lb, lv, lp, lc]
  have hf := C03.fromAttrsDest_fields vW ctl "1030".toList _ f rfl rfl h
  refine ⟨hf.1, hf.2.1, ?_⟩
  unfold p1030
  rw [Frame.blen, hf.2.2.1, hlen, List.drop_left' hil, chunks_flatten 6 (by decide) es (by simp [es, la, lb, lv, lp, lc])]
  simp only [es, mapM', ea, eb, ev, ep, ec]
  rfl

end Ramses.C03Mix
