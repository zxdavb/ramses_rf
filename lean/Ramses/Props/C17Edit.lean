/-
  C17 (continuation) — one `Schedule` object over an edit of the schedule it holds.

  The object holds *anything* (the fragments and the decoded schedule of an earlier version, a
  half-filled set, a set of another length); then the reply packets of schedule `s` are received:
  every fragment, twice over, in any order and with any repeats.  It reports `s` - whatever zlib
  makes of a mixture of old and new fragments on the way (it may even decode).

  `feed` is the passive path of `Schedule._handle_msg`: `_update_payload_set` on the set held, and
  `_full_schedule` replaced when (and only when) that step decoded a schedule.
  One pass is not enough: the first new fragment that disagrees with the old set empties it, and the
  fragments before it are gone until they are repeated (harness: c17 `reassembly.edited`).
-/
import Ramses.Props.C17
import Ramses.Proofs.Fold
namespace Ramses.C17E
open Ramses.C17

abbrev St := PayloadSet × Option Sched

/-- `Schedule._handle_msg` for an RP|0404 carrying a fragment (Model/Sched.lean) -/
abbrev feed (z : Zlib) (st : St) (p : FragMsg) : St := feedMsg z st p

/-- the reply packet for fragment `i` (0-based) of the fragment list `fb` -/
def msgOf (fb : List (List Char)) (i : Nat) : FragMsg := ⟨i + 1, fb.length, fb.getD i []⟩

/-- every slot named in `I` is empty or holds the new version's fragment for that slot -/
def NewOnly (fb : List (List Char)) (I : Nat → Prop) (set : PayloadSet) : Prop :=
  set.length = fb.length ∧ ∀ i, i < fb.length → I i → set[i]? = some none ∨ set[i]? = some (some (msgOf fb i))

theorem set_get (set : PayloadSet) (fb : List (List Char)) (j i : Nat) (hl : set.length = fb.length) (hj : j < fb.length) :
    (set.set ((msgOf fb j).num - 1) (some (msgOf fb j)))[i]? = if j = i then some (some (msgOf fb j)) else set[i]? := by
  have e : (msgOf fb j).num - 1 = j := by simp [msgOf]
  rw [e, List.getElem?_set]
  by_cases h : j = i
  · subst h; simp [hl, hj]
  · simp [h]

theorem NewOnly.mono {fb : List (List Char)} {I I' : Nat → Prop} {set : PayloadSet} (hI : ∀ i, I' i → I i)
    (h : NewOnly fb I set) : NewOnly fb I' set :=
  ⟨h.1, fun i hi hi' => h.2 i hi (hI i hi')⟩

theorem newOnly_set {fb : List (List Char)} {I : Nat → Prop} {set : PayloadSet} (j : Nat) (hj : j < fb.length)
    (h : NewOnly fb I set) :
    NewOnly fb (fun i => I i ∨ i = j) (set.set ((msgOf fb j).num - 1) (some (msgOf fb j))) := by
  refine ⟨by simp [h.1], fun i hi hI => ?_⟩
  rw [set_get set fb j i h.1 hj]
  split
  · subst_vars; exact Or.inr rfl
  · exact h.2 i hi (hI.resolve_right fun e => ‹¬ j = i› e.symm)

theorem newOnly_init (fb : List (List Char)) {I : Nat → Prop} (j : Nat) (hj : j < fb.length) :
    NewOnly fb I (initSet (msgOf fb j)) :=
  (newOnly_set (set := List.replicate fb.length none) j hj
    ⟨List.length_replicate, fun i hi _ => .inl (by simp [hi])⟩).mono fun _ => Or.inl

theorem updateSet_fst (z : Zlib) (set : PayloadSet) (p : FragMsg) :
    (updateSet z set p).1 = initSet p ∨
      (p.total = set.length ∧ (updateSet z set p).1 = set.set (p.num - 1) (some p)) := by
  -- the four leaves of `updateSet`: another length, a gap left, decoded, not decodable
  fun_cases updateSet z set p
  case case1 | case4 => exact .inl rfl
  case case2 hl _ _ | case3 hl _ _ _ _ => exact .inr ⟨Decidable.not_not.1 hl, rfl⟩

/-- one step keeps the slots seen so far new-or-empty, and adds the slot of this message -/
theorem step_newOnly (z : Zlib) (fb : List (List Char)) {I : Nat → Prop} {set : PayloadSet} (j : Nat) (hj : j < fb.length)
    (h : NewOnly fb I set) : NewOnly fb (fun i => I i ∨ i = j) (updateSet z set (msgOf fb j)).1 := by
  rcases updateSet_fst z set (msgOf fb j) with e | ⟨_, e⟩ <;> rw [e]
  · exact newOnly_init fb j hj
  · exact newOnly_set j hj h

/-- the first step from any state at all: the set has the new length afterwards -/
theorem first_step (z : Zlib) (fb : List (List Char)) (set : PayloadSet) (j : Nat) (hj : j < fb.length) :
    NewOnly fb (fun i => i = j) (updateSet z set (msgOf fb j)).1 := by
  rcases updateSet_fst z set (msgOf fb j) with e | ⟨hl, e⟩ <;> rw [e]
  · exact newOnly_init fb j hj
  · exact (newOnly_set (I := fun _ => False) j hj ⟨hl.symm, fun _ _ h => h.elim⟩).mono fun _ => Or.inr

theorem run_newOnly (z : Zlib) (fb : List (List Char)) (l : List Nat) (I : Nat → Prop) (st : St) (hl : ∀ i ∈ l, i < fb.length)
    (h : NewOnly fb I st.1) : NewOnly fb (fun i => I i ∨ i ∈ l) ((l.map (msgOf fb)).foldl (feed z) st).1 := by
  rw [List.foldl_map]
  exact run_grow (fun st j => feed z st (msgOf fb j)) (fun I st => NewOnly fb I st.1) NewOnly.mono
    (step_newOnly z fb) l hl h

/-- a set whose every slot holds its new fragment *is* the new version's fragment list -/
theorem full_new {fb : List (List Char)} {set : PayloadSet} (hl : set.length = fb.length)
    (h : ∀ i, i < fb.length → set[i]? = some (some (msgOf fb i))) :
    set.any (·.isNone) = false ∧ set.filterMap (fun x => x.map (·.frag)) = fb := by
  -- the set is the fragment list, each fragment wrapped into its packet
  have e : set = fb.mapIdx fun i f => some ⟨i + 1, fb.length, f⟩ := by
    refine (List.mapIdx_eq_iff.2 fun i => ?_).symm
    by_cases hi : i < fb.length
    · rw [h i hi, List.getElem?_eq_getElem hi, msgOf, List.getD_eq_getElem?_getD, List.getElem?_eq_getElem hi]; rfl
    · rw [List.getElem?_eq_none (by omega), List.getElem?_eq_none (by omega)]; rfl
  rw [e, List.mapIdx_eq_zipIdx_map, List.any_map, List.filterMap_map]
  exact ⟨List.any_eq_false.2 fun _ _ => nofun, by simp [Function.comp_def]⟩

/-- in a new-or-empty set, "no empty slot" means every slot holds its new fragment -/
theorem newOnly_full {fb : List (List Char)} {set : PayloadSet} (h : NewOnly fb (fun _ => True) set)
    (hf : set.any (·.isNone) = false) : ∀ i, i < fb.length → set[i]? = some (some (msgOf fb i)) := by
  intro i hi
  refine (h.2 i hi trivial).resolve_left fun e => ?_
  exact absurd (List.any_eq_true.mpr ⟨none, List.mem_of_getElem? e, rfl⟩) (Bool.eq_false_iff.1 hf)

section pass2
variable (z : Zlib) (hz : ∀ b, z.decompress (z.compress b) = some b) (hzb : ∀ b, ∀ x ∈ z.compress b, x < 256)
variable (s : Sched) (hw : s.WF = true)

/-- the second pass: the set is new-or-empty throughout, is never emptied again, the slots fed stay
    filled, and as soon as a step leaves it full the schedule held is `s` - and stays `s` -/
structure P2 (J : Nat → Prop) (st : St) : Prop where
  newOnly : NewOnly (toFragz z s) (fun _ => True) st.1
  filled : ∀ i, i < (toFragz z s).length → J i → st.1[i]? = some (some (msgOf (toFragz z s) i))
  held : st.1.any (·.isNone) = false → st.2 = some s

theorem P2.mono {J J' : Nat → Prop} {st : St} (hJ : ∀ i, J' i → J i) (h : P2 z s J st) : P2 z s J' st :=
  ⟨h.newOnly, fun i hi hi' => h.filled i hi (hJ i hi'), h.held⟩

include hz hzb hw in
/-- on a set that is new-or-empty throughout, a step is a plain write of the slot, and reports `s` as
    soon as no slot is empty: the set is never restarted again -/
theorem updateSet_new (set : PayloadSet) (j : Nat) (hj : j < (toFragz z s).length)
    (h : NewOnly (toFragz z s) (fun _ => True) set) :
    updateSet z set (msgOf (toFragz z s) j) =
      (set.set ((msgOf (toFragz z s) j).num - 1) (some (msgOf (toFragz z s) j)),
        if (set.set ((msgOf (toFragz z s) j).num - 1) (some (msgOf (toFragz z s) j))).any (·.isNone) then none else some s) := by
  have hset := (newOnly_set j hj h).mono (I' := fun _ => True) fun _ _ => Or.inl trivial
  unfold updateSet
  rw [if_neg (by simp [msgOf, h.1])]
  simp only
  split
  · rfl
  · rename_i hany
    have hf := Bool.eq_false_iff.2 hany
    rw [(full_new hset.1 (newOnly_full hset hf)).2, schedule_roundtrip z hz hzb s hw]

include hz hzb hw in
/-- what was held before does not matter: a step that leaves the set full has just decoded it -/
theorem p2_step {J : Nat → Prop} {st : St} (j : Nat) (hj : j < (toFragz z s).length)
    (h : NewOnly (toFragz z s) (fun _ => True) st.1)
    (hfill : ∀ i, i < (toFragz z s).length → J i → st.1[i]? = some (some (msgOf (toFragz z s) i))) :
    P2 z s (fun i => J i ∨ i = j) (feed z st (msgOf (toFragz z s) j)) := by
  simp only [feed, feedMsg, updateSet_new z hz hzb s hw st.1 j hj h]
  refine ⟨(newOnly_set j hj h).mono fun _ _ => Or.inl trivial, fun i hi hI => ?_, fun hf => by rw [if_neg (by simp [hf])]⟩
  rw [set_get st.1 _ j i h.1 hj]
  split
  · subst_vars; rfl
  · exact hfill i hi (hI.resolve_right fun e => ‹¬ j = i› e.symm)

include hz hzb hw in
theorem p2_run (l : List Nat) (J : Nat → Prop) (st : St) (hl : ∀ i ∈ l, i < (toFragz z s).length) (h : P2 z s J st) :
    P2 z s (fun i => J i ∨ i ∈ l) ((l.map (msgOf (toFragz z s))).foldl (feed z) st) := by
  rw [List.foldl_map]
  exact run_grow _ (P2 z s) (P2.mono z s) (fun j hj h => p2_step z hz hzb s hw j hj h.newOnly h.filled) l hl h

include hz hzb hw in
/-- **Two passes of the new version's packets, in any order with any repeats, from any state:
    the schedule reported is the new version.** -/
theorem edited_two_passes (st : St) (l1 l2 : List Nat)
    (hn : 0 < (toFragz z s).length)
    (b1 : ∀ i ∈ l1, i < (toFragz z s).length) (b2 : ∀ i ∈ l2, i < (toFragz z s).length)
    (c1 : ∀ i, i < (toFragz z s).length → i ∈ l1) (c2 : ∀ i, i < (toFragz z s).length → i ∈ l2) :
    (((l1 ++ l2).map (msgOf (toFragz z s))).foldl (feed z) st).2 = some s := by
  rw [List.map_append, List.foldl_append]
  -- pass 1: after its first step the set has the new length; at its end every slot is new-or-empty
  obtain ⟨j1, r1, rfl⟩ := List.exists_cons_of_ne_nil (List.ne_nil_of_mem (c1 0 hn))
  have n1 := run_newOnly z _ r1 _ (feed z st (msgOf _ j1)) (fun i hi => b1 i (List.mem_cons_of_mem _ hi))
    (first_step z (toFragz z s) st.1 j1 (b1 j1 List.mem_cons_self))
  -- pass 2: no slot is emptied any more, every slot gets filled, and the step that fills the last reports `s`
  obtain ⟨j2, r2, rfl⟩ := List.exists_cons_of_ne_nil (List.ne_nil_of_mem (c2 0 hn))
  have p := p2_run z hz hzb s hw r2 _ _ (fun i hi => b2 i (List.mem_cons_of_mem _ hi))
    (p2_step z hz hzb s hw (J := fun _ => False) j2 (b2 j2 List.mem_cons_self)
      ⟨n1.1, fun i hi _ => n1.2 i hi (List.mem_cons.1 (c1 i hi))⟩ fun _ _ h => h.elim)
  exact p.held (full_new p.newOnly.1 fun i hi =>
    p.filled i hi ((List.mem_cons.1 (c2 i hi)).imp_left Or.inr)).1

end pass2

/-- a stand-in codec with a checksum: the payload followed by the sum of its bytes -/
def zsum : Zlib :=
  ⟨fun b => b ++ [b.foldl (· + ·) 0 % 256],
   fun b => match b.getLast? with
     | none => none
     | some c => if b.dropLast.foldl (· + ·) 0 % 256 = c then some b.dropLast else none⟩

/-- one switchpoint a day at 06:30; Thursday's setpoint is `v` -/
def week (v : Nat) : Sched := ⟨1, (List.range 7).map fun d => ⟨d, [⟨390, if d = 3 then v else 2000⟩]⟩⟩

/-- non-vacuity - and why one pass is not enough: the object holds last week's schedule (four
    fragments); Thursday is edited (fragments 2 and 4 change); after one in-order pass of the new
    packets it still reports the old schedule (the set was emptied at fragment 2, fragment 1 is
    missing), after the second pass the new one -/
example :
    let s0 := week 1500
    let s := week 1600
    let fb0 := toFragz zsum s0
    let fb := toFragz zsum s
    let st0 : St := ((List.range fb0.length).map (fun i => some (msgOf fb0 i)), some s0)
    let pass := (List.range fb.length).map (msgOf fb)
    (fb.length = 4 ∧ s.WF = true) ∧ ((pass.foldl (feed zsum) st0).2 == some s0) = true ∧
      (((pass ++ pass).foldl (feed zsum) st0).2 == some s) = true := by decide +kernel

end Ramses.C17E
