/-
  C20 — binding handshakes complete under duplicates, and always end and can be retried.

  Theorems about the binding state machine of one device, for every order and number of received
  packets (any phases, repeats, echoes, third-party traffic) and every timer order.  That the two
  ends of a real handshake exchange the right frames over the air is the per-run comparison on two
  real gateways (DESIGN.md §3 C20).

  In this order: every wait ends, with the message or a binding error, and afterwards the device is
  not binding; repeats, echoes and unrelated binding traffic change nothing (`rcvdAll_awaiting`);
  whole handshakes, evaluated, with the witness for the code before the repair.
-/
import Ramses.Model.Bind
import Ramses.Proofs.Fold
namespace Ramses.C20
open Ramses.Bind

/-- the states in which a device "is binding" are exactly the six working states -/
theorem terminal_not_binding :
    S.isBinding .notBinding = false ∧ S.isBinding .failed = false ∧ S.isBinding .respBound = false ∧
    S.isBinding .suppBound = false := by decide

/-- a new attempt can start exactly when the device is not binding -/
def canStart (c : Ctx) : Bool := !c.st.isBinding

/-- **a wait that times out ends the attempt cleanly**: the caller gets `BindingFlowFailed`, the
    device is in `DevHasFailedBinding` (not binding), and a new attempt can start -/
theorem timeout_ends_cleanly (c : Ctx) (h : c.fut = .pending) :
    (waitEnd c true).2 = some .bindingFlowFailed ∧ (waitEnd c true).1.st = .failed ∧
    canStart (waitEnd c true).1 = true := by
  simp [waitEnd, failNow, h, canStart, S.isBinding]

/-- whatever happened before, the end of a wait never surfaces `InvalidStateError`: it is the
    message or `BindingFlowFailed` (a wait only ends by timeout or with its future done) -/
theorem wait_outcome (c : Ctx) (t : Bool) (h : t = true ∨ c.fut ≠ .pending) :
    (waitEnd c t).2 = none ∨ (waitEnd c t).2 = some .bindingFlowFailed := by
  unfold waitEnd failNow
  cases hf : c.fut <;> cases t <;> simp_all

/-- if the message had arrived just before the timeout fired, the attempt still goes on -/
theorem late_message_wins (c : Ctx) (h : c.fut = .result) (t : Bool) :
    waitEnd c t = (enter c.st.next, none) := by
  unfold waitEnd failNow
  cases t <;> simp [h]

/-- the state's own timer, firing after the wait has ended one way or the other, changes nothing
    but itself (no second failure, no error) -/
theorem late_state_timer_harmless (c : Ctx) (h : c.fut ≠ .pending) :
    (stateTimer c).st = c.st ∧ (stateTimer c).fut = c.fut := by
  unfold stateTimer failNow
  split <;> simp_all

/-- and firing first, it fails the attempt exactly like the wait's own timeout -/
theorem state_timer_fails_cleanly (c : Ctx) (h : c.fut = .pending) (ht : c.timer = true) :
    (stateTimer c).st = .failed ∧ (waitEnd (stateTimer c) false).2 = some .bindingFlowFailed := by
  simp [stateTimer, failNow, h, ht, waitEnd]

/-- an attempt that ends with an exception of any kind leaves the device not binding -/
theorem abandon_not_binding (c : Ctx) : (abandon c).st.isBinding = false := by
  unfold abandon
  split
  · rfl
  · rename_i h; simpa using h

/-- once the awaited packet has arrived (or the wait has failed) every further packet — a repeat,
    an echo, someone else's Offer — leaves the machine exactly as it is -/
theorem rcvd_after_done (c : Ctx) (ph : Phase) (e : Bool) (h : c.fut ≠ .pending) : rcvd c ph e = c := by
  unfold rcvd
  cases c.st.pktPhase <;> cases c.st.cmdPhase <;> simp_all

/-- a received packet never fails a wait and never changes the state class -/
theorem rcvd_keeps_state (c : Ctx) (ph : Phase) (e : Bool) :
    (rcvd c ph e).st = c.st ∧ ((rcvd c ph e).fut = c.fut ∨ (rcvd c ph e).fut = .result) := by
  unfold rcvd
  cases c.st.pktPhase <;> cases c.st.cmdPhase <;> simp <;> split <;> simp

def rcvdAll (c : Ctx) (rs : List (Phase × Bool)) : Ctx := rs.foldl (fun c r => rcvd c r.1 r.2) c

theorem rcvdAll_done (rs : List (Phase × Bool)) (c : Ctx) (h : c.fut ≠ .pending) : rcvdAll c rs = c :=
  foldl_inv (P := (· = c)) rs c (fun _ r _ e => e ▸ rcvd_after_done c r.1 r.2 h) rfl

theorem rcvd_awaiting {c : Ctx} {want : Phase} (hp : c.st.pktPhase = some want) (ph : Phase) (e : Bool) :
    rcvd c ph e = if ph = want ∧ c.fut = .pending then { c with fut := .result } else c := by
  rw [rcvd, hp]

theorem rcvdAll_awaiting {want : Phase} : ∀ (rs : List (Phase × Bool)) {c : Ctx},
    c.st.pktPhase = some want → c.fut = .pending →
    rcvdAll c rs = if ∃ r ∈ rs, r.1 = want then { c with fut := .result } else c
  | [], _, _, _ => by simp [rcvdAll]
  | r :: rs, c, hp, hf => by
    rw [rcvdAll, List.foldl_cons, rcvd_awaiting hp, ← rcvdAll]
    by_cases hr : r.1 = want
    · rw [if_pos ⟨hr, hf⟩, rcvdAll_done rs _ (by simp), if_pos ⟨r, List.mem_cons_self, hr⟩]
    · rw [if_neg (fun h => hr h.1), rcvdAll_awaiting rs hp hf]
      simp only [List.mem_cons, exists_eq_or_imp, hr, false_or]

/-- **any mix of traffic that contains the awaited packet at least once completes the wait** — how
    many times it is repeated, what else is interleaved, in which order: irrelevant -/
theorem awaited_packet_completes (want : Phase) : ∀ (rs : List (Phase × Bool)) (c : Ctx),
    c.st.pktPhase = some want → c.fut = .pending → (∃ r ∈ rs, r.1 = want) →
    (rcvdAll c rs).fut = .result ∧ (rcvdAll c rs).st = c.st := by
  intro rs c hp hf hex
  rw [rcvdAll_awaiting rs hp hf, if_pos hex]
  exact ⟨rfl, rfl⟩

/-- the echo of the device's own command completes a send-only state, however often it is heard -/
theorem echo_completes (c : Ctx) (h1 : c.st.pktPhase = none) (h2 : c.st.cmdPhase ≠ none) (h3 : c.hasCmd = true)
    (h4 : c.fut = .pending) (ph : Phase) : (rcvd (rcvd c ph true) ph true).fut = .result := by
  unfold rcvd
  cases hc : c.st.cmdPhase with
  | none => exact absurd hc h2
  | some x => simp [h1, hc, h3, h4]

/-- respondent, with every frame heard three times, a third party's Offer and the echo of its own
    Accept mixed in: bound, and the next attempt can start -/
theorem respondent_handshake_with_repeats :
    run (enter .notBinding)
      [.enter .respWaitOffer, .rcvd .offer false, .rcvd .offer false, .rcvd .offer false, .waitEnd false,
       .sent .accept, .rcvd .offer false, .rcvd .accept true, .rcvd .confirm false, .rcvd .confirm false,
       .rcvd .confirm false, .waitEnd false, .stateTimer]
      = enter .respBound := by decide +kernel

theorem supplicant_handshake_with_addenda :
    run (enter .notBinding)
      [.enter .suppSendOfferWaitAccept, .sent .offer, .rcvd .offer true, .rcvd .accept false, .rcvd .accept false,
       .waitEnd false, .sent .confirm, .rcvd .confirm true, .waitEnd false, .enter .suppReadyAddenda,
       .sent .addenda, .rcvd .addenda true, .rcvd .addenda true, .waitEnd false]
      = enter .suppBound := by decide +kernel

/-- a respondent that hears no Offer: the attempt ends after the wait, it is not binding, the late
    state timer is harmless, and a second attempt then succeeds -/
theorem respondent_timeout_then_retry :
    let c1 := run (enter .notBinding) [.enter .respWaitOffer, .waitEnd true, .stateTimer]
    c1.st = .failed ∧ canStart c1 = true ∧
    run c1 [.enter .respWaitOffer, .rcvd .offer false, .waitEnd false, .sent .accept, .rcvd .confirm false, .waitEnd false]
      = enter .respBound := by decide +kernel

/-- the code as it stood before the repair: the timeout surfaced `InvalidStateError` and the device
    stayed binding for ever -/
theorem unfixed_timeout_witness :
    (waitEndUnfixed (enter .respWaitOffer) true).2 = some .invalidState ∧
    (waitEndUnfixed (enter .respWaitOffer) true).1.st.isBinding = true := by decide

end Ramses.C20
