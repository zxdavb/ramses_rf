/-
  C09 — the send machinery never wedges: it returns to idle and keeps serving.
  Model: Model/Qos.lean (macro-step abstraction, see C08); `Inv` is the model's counterpart of the
  authors' own `is_sending` consistency predicate.
-/
import Ramses.Proofs.QosInv
namespace Ramses.C09
open Ramses.Qos

/-- **the internal consistency checks never trip**: after any finite episode the machine
    satisfies the invariant that the authors' `is_sending` asserts (nothing in flight ⇔ idle or
    inactive; in flight ⇒ a command with 1 ≤ tx_count ≤ tx_limit that is not also queued) -/
theorem consistent_always (fails : List (Nat × Nat)) (evs : List (Nat × Ev)) (hf : FreshEvs (init fails) evs) :
    Inv (run (init fails) evs) := run_inv _ evs (init_inv fails) hf

/-- **back to idle**: with nothing in flight the machine is idle (or inactive if disconnected) -/
theorem rests_idle (fails : List (Nat × Nat)) (evs : List (Nat × Ev)) (hf : FreshEvs (init fails) evs)
    (h : (run (init fails) evs).cur = none) :
    (run (init fails) evs).st = .idle ∨ (run (init fails) evs).st = .inactive :=
  (consistent_always fails evs hf).idle_ok h

theorem goIdle_starts (fuel : Nat) (s : S) (c : QCmd) (hf : fuel ≠ 0) (hb : best s.que = some c)
    (hd : s.dead.contains c.id = false) (hw : writeFails s c.id = false) :
    (goIdle fuel s).cur = some c ∧ (goIdle fuel s).st = .wantEcho ∧ (goIdle fuel s).now = s.now := by
  fun_induction goIdle fuel s with
  | case1 => exact absurd rfl hf
  | case2 _ _ _ hb' => exact nomatch hb'.symm.trans hb
  | case3 _ _ _ _ hb' _ hd' => cases hb'.symm.trans hb; exact nomatch hd'.symm.trans hd
  | case4 _ _ _ _ hb' _ _ hw' => cases hb'.symm.trans hb; exact nomatch hw'.symm.trans hw
  | case5 _ _ _ _ hb' => cases hb'.symm.trans hb; exact ⟨rfl, rfl, rfl⟩

theorem call_starts (s : S) (c : QCmd) (h1 : s.st = .idle) (hlen : s.que.length < maxBuffer)
    (hb : best (s.que ++ [c]) = some c) (hd : s.dead.contains c.id = false) (hw : writeFails s c.id = false) :
    (apply s (.call c)).cur = some c ∧ (apply s (.call c)).st = .wantEcho ∧ (apply s (.call c)).now = s.now := by
  rw [apply, if_neg (h1 ▸ nofun), if_neg (Nat.not_le.2 hlen)]
  simp only [h1, if_true]
  exact goIdle_starts _ _ c (Nat.succ_ne_zero _) hb hd hw

theorem echo_answers (s : S) (c : QCmd) (hc : s.cur = some c) (hs : s.st = .wantEcho) (hn : c.needReply = false) :
    (c.id, Out.echo, s.now) ∈ (apply s (.echo c.id)).outcomes := by
  simp only [apply, hc, hs, hn, and_self, if_true]
  exact goIdle_grows _ _ _ (List.mem_append_right _ (List.mem_singleton_self _))

/-- **a fresh command to a responsive device succeeds**: from any idle state with an empty queue and
    no caller written off, a command that awaits no reply, whose write does not fail and whose echo
    arrives, is answered with that echo -/
theorem probe_succeeds (s : S) (c : QCmd) (h1 : s.st = .idle) (h2 : s.que = []) (h3 : s.dead = [])
    (hw : writeFails s c.id = false) (hn : c.needReply = false) :
    (c.id, Out.echo, s.now) ∈ (apply (apply s (.call c)) (.echo c.id)).outcomes := by
  obtain ⟨hc, hs, ht⟩ := call_starts s c h1 (by rw [h2]; decide) (by rw [h2]; rfl) (by rw [h3]; rfl) hw
  exact ht ▸ echo_answers _ c hc hs hn

/-- non-vacuity + the once-fatal schedule: disconnect between enqueue and start, reconnect, probe -/
example :
    let s := run (init []) [(0, .call ⟨0, 0, 0, 3, false, true, 1000000⟩), (20000, .connLost), (30000, .call ⟨1, 0, 1, 3, false, true, 1030000⟩),
                            (500000, .connMade), (600000, .call ⟨2, 0, 2, 3, false, true, 20600000⟩), (620000, .echo 2)]
    s.st = .idle ∧ s.cur = none ∧ s.outcomes = [(0, .failed, 20000), (1, .failed, 30000), (2, .echo, 620000)] := by
  decide +kernel

end Ramses.C09
