/-
  C01 — reception is total: bad input is rejected cleanly and never stops the stream.

  Model: Model/Recv.lean + Model/Packet.lean (+ Frame/Header).  All statements are for
  unbounded lines / streams / partitions.
-/
import Ramses.Model.Recv
import Ramses.Proofs.PyLemmas
import Ramses.Proofs.Fold
namespace Ramses.C01

theorem step_cut (L : List (List Nat)) (c : List Nat) (b : Nat) (h : b = 10 ∧ c.getLast? = some 13) :
    splitStep (L, c) b = (L ++ [c.dropLast], []) := if_pos h

theorem step_keep (L : List (List Nat)) (c : List Nat) (b : Nat) (h : ¬ (b = 10 ∧ c.getLast? = some 13)) :
    splitStep (L, c) b = (L, c ++ [b]) := if_neg h

theorem step_lines (L : List (List Nat)) (c : List Nat) (b : Nat) :
    splitStep (L, c) b = (L ++ (splitStep ([], c) b).1, (splitStep ([], c) b).2) := by
  unfold splitStep
  split <;> simp

theorem run_lines (L : List (List Nat)) (c : List Nat) (s : List Nat) :
    s.foldl splitStep (L, c) = (L ++ (s.foldl splitStep ([], c)).1, (s.foldl splitStep ([], c)).2) := by
  induction s generalizing L c with
  | nil => simp
  | cons b s ih =>
    rw [List.foldl_cons, List.foldl_cons, step_lines, ih, ih (splitStep ([], c) b).1, List.append_assoc]

/-- a buffer the scanner has left over never contains a complete CR LF: re-scanning it
    yields no line and the same buffer -/
def NoLine (c : List Nat) : Prop := c.foldl splitStep ([], []) = ([], c)

theorem noLine_nil : NoLine [] := rfl

theorem noLine_step (st : List (List Nat) × List Nat) (b : Nat) (h : NoLine st.2) : NoLine (splitStep st b).2 := by
  unfold splitStep
  split
  · exact noLine_nil
  · unfold NoLine at *
    rw [List.foldl_append, h]
    exact step_keep [] _ b ‹_›

theorem tail_noLine (s : List Nat) : NoLine (splitCRLF s).2 :=
  foldl_inv (P := fun st => NoLine st.2) s _ (fun st b _ => noLine_step st b) noLine_nil

/-- resuming from a left-over buffer = re-scanning buffer ++ new data (what the code does) -/
theorem rescan (c d : List Nat) (h : NoLine c) :
    splitCRLF (c ++ d) = d.foldl splitStep ([], c) := by
  unfold splitCRLF
  rw [List.foldl_append, h]

theorem splitCRLF_append (a b : List Nat) :
    splitCRLF (a ++ b) =
      ((splitCRLF a).1 ++ (splitCRLF ((splitCRLF a).2 ++ b)).1, (splitCRLF ((splitCRLF a).2 ++ b)).2) := by
  rw [rescan _ b (tail_noLine a), ← run_lines]
  unfold splitCRLF
  rw [List.foldl_append]

/-- **chunking is irrelevant**: for every way of cutting the byte stream into reads (any
    number of cuts, anywhere — inside a CR LF, 1-byte reads, empty reads), the sequence of
    lines delivered and the final buffer are those of a single read of all the bytes -/
theorem chunking_irrelevant (chunks : List (List Nat)) (buf : List Nat) (h : NoLine buf) :
    feedAll buf chunks = ((splitCRLF (buf ++ chunks.flatten)).2, (splitCRLF (buf ++ chunks.flatten)).1) := by
  induction chunks generalizing buf with
  | nil =>
    unfold NoLine at h
    simp only [feedAll, List.flatten_nil, List.append_nil, splitCRLF, h]
  | cons d ds ih =>
    simp only [feedAll, feed, List.flatten_cons]
    rw [ih _ (tail_noLine _), ← List.append_assoc, splitCRLF_append (buf ++ d)]


theorem hasArrayFirst_raises (c : HCore) : Raises (· = .assertionError) (hasArrayFirst c) := by
  unfold hasArrayFirst
  exact .ite (.ok _) (.error rfl)

theorem parseFrame_raises (s : List Char) : Raises (· = .pktInvalid) (parseFrame s) := by
  unfold parseFrame
  refine .ite (.error rfl) ?_
  cases pktAddrs (frameFields s).a0 (frameFields s).a1 (frameFields s).a2 with
  | error _ => exact .error rfl
  | ok _ => exact .ite (.error rfl) (.ok _)

/-- the two `match`es of `pktLifespan` on a first access of `_has_array` -/
theorem raises_matchB {α} {S : PyExn → Prop} {x : Py Bool} {t f : Py α} (hx : Raises S x) (ht : Raises S t)
    (hf : Raises S f) :
    Raises S (match x with | .error e => .error e | .ok true => t | .ok false => f) := by
  rcases x with e | (_|_)
  · exact .error (hx e rfl)
  · exact hf
  · exact ht

theorem pktLifespan_raises (f : Frame) :
    Raises (fun e => e = .assertionError ∨ e = .valueError) (pktLifespan f) := by
  have arr : ∀ (b : Bool), Raises (fun e => e = .assertionError ∨ e = .valueError)
      (if b then hasArrayFirst f.core else .ok false) := fun b =>
    .ite ((hasArrayFirst_raises _).mono fun _ => Or.inl) (.ok _)
  unfold pktLifespan
  refine .ite (.ok _) <| .ite (.ok _) <| .ite (.ok _) <| .ite (.ok _) ?_
  refine raises_matchB (arr _) (.ok _) <| .ite (.ok _) <| .ite (.ok _) <| .ite (.ok _) <|
    raises_matchB (arr _) (.ok _) <| .ite ?_ ?_
  · cases ofHex (slice f.payload 4 6) with
    | none => exact .error (Or.inr rfl)
    | some id => exact .ite (.ok _) <| .ite (.ok _) (.ok _)
  · rcases lookupS Gen.schemaLifespan f.code with _ | _ | _ <;> exact .ok _

theorem mkPacket_raises (t m c : List Char) : Raises (· = .pktInvalid) (mkPacket t m c) := by
  unfold mkPacket
  cases hf : parseFrame (t.drop 4) with
  | error e => exact .error (parseFrame_raises _ e hf)
  | ok f =>
    dsimp only
    cases hl : pktLifespan f with
    | error e => rcases pktLifespan_raises f e hl with rfl | rfl <;> exact .error rfl
    | ok us =>
      refine .ite (.error rfl) ?_
      cases validateSlices (t.drop 4) with
      | error _ => exact .error rfl
      | ok _ => exact .ok _

theorem pktFromFile_raises (ok : Bool) (line : List Char) :
    Raises (fun e => e = .pktInvalid ∨ (e = .valueError ∧ ((pktPartition line).1 = [] ∨ ok = false)))
      (pktFromFile ok line) := by
  unfold pktFromFile
  dsimp only
  split
  · exact .error (.inr ⟨rfl, .inl ‹_›⟩)
  · split
    · exact .error (.inr ⟨rfl, .inr (Bool.eq_false_iff.2 ‹_›)⟩)
    · exact (mkPacket_raises _ _ _).mono fun _ => .inl

/-- **reception of a line is total**: whatever text is offered as a frame line (any length, any
    characters), with a good or a bad time stamp, the outcome is a packet, a clean rejection
    (`PacketInvalid`, or `ValueError`), or "not a frame line" — never another exception -/
theorem recv_total (ok : Bool) (line : List Char) : (frameRead ok line).isEscaped = false := by
  unfold frameRead
  split
  · rfl
  · cases h : pktFromFile ok line with
    | ok p => rfl
    | error e =>
      -- the only exceptions `pktFromFile` raises are the two that `frameRead` turns into a rejection
      rcases pktFromFile_raises ok line e h with rfl | ⟨rfl, _⟩ <;> rfl

/-- `ValueError` is raised only for an empty frame or an undatable line -/
theorem recv_valueError_only_if (ok : Bool) (line : List Char)
    (h : pktFromFile ok line = .error .valueError) : (pktPartition line).1 = [] ∨ ok = false :=
  (pktFromFile_raises ok line _ h).elim (fun h1 => nomatch h1) (·.2)

theorem fileLine_total (ok : Bool) (raw : List Char) : (fileLine ok raw).isEscaped = false := by
  unfold fileLine
  simp only
  split
  · rfl
  · exact recv_total _ _

/-- every sequence of bytes delivered as a serial line (undecodable bytes, chatter, anything) -/
theorem portLine_total (bs : List Nat) : (portLine bs).isEscaped = false := recv_total _ _

theorem fence_range (e : PyExn) : fence e = .pktInvalid ∨ (fence e = e ∧ fenced e = false) := by
  cases e <;> first | exact .inl rfl | exact .inr ⟨rfl, rfl⟩

/-- the only assumption about parsers that are not modelled: they raise nothing outside the
    fenced classes (monitored on every generated payload by the correspondence check) -/
def ParserClosed (parser : Frame → Py Unit) : Prop := ∀ f e, parser f = .error e → fenced e = true

theorem msg_total (parser : Frame → Py Unit) (hc : ParserClosed parser) (f : Frame) :
    msgValidate f parser = .ok () ∨ msgValidate f parser = .error .pktInvalid := by
  have hr : Raises (· = .pktInvalid) (msgValidate f parser) := by
    unfold msgValidate
    refine .ite (.error rfl) ?_
    cases schemaLookup f.code f.verb with
    | none => exact .error rfl
    | some pat =>
      refine .ite (.error rfl) <| .ite (.ok _) ?_
      cases h : parser f with
      | ok u => exact .ok _
      | error e => exact .error (of_decide_eq_true (hc f e h))
  cases h : msgValidate f parser with
  | ok u => exact .inl rfl
  | error e => exact .inr (congrArg _ (hr e h))

theorem deliver_total (parser : Frame → Py Unit) (hc : ParserClosed parser) (o : Outcome)
    (ho : o.isEscaped = false) : ∀ e, deliver parser o ≠ .escaped e := by
  intro e
  cases o with
  | packet p => rcases msg_total parser hc p.frame with h | h <;> rw [deliver, h] <;> nofun
  | escaped e' => cases ho
  | _ => exact fun h => nomatch h

/-- what one line contributes to the delivered sequence -/
def deliveredOf (parser : Frame → Py Unit) (o : Outcome) : Option Pkt :=
  match deliver parser o with
  | .delivered p => some p
  | _ => none

/-- **a rejected, blank, chatter or undecodable line never affects the lines that follow**:
    the delivered sequence is the line-by-line filter of the stream, and the reader never stops -/
theorem stream_independent (parser : Frame → Py Unit) (hc : ParserClosed parser)
    (os : List Outcome) (hos : ∀ o ∈ os, o.isEscaped = false) :
    recvStream parser os = (os.filterMap (deliveredOf parser), none) := by
  induction os with
  | nil => rfl
  | cons o os ih =>
    have ih' := ih fun o' h' => hos o' (List.mem_cons_of_mem _ h')
    rw [recvStream, List.filterMap_cons, deliveredOf]
    cases hdo : deliver parser o with
    | escaped e => exact absurd hdo (deliver_total parser hc o (hos o List.mem_cons_self) e)
    | none => exact ih'
    | delivered p => simp only [ih']

/-- a whole packet-log file, line by line -/
theorem file_stream_total (parser : Frame → Py Unit) (hc : ParserClosed parser)
    (lines : List (Bool × List Char)) :
    recvStream parser (lines.map fun l => fileLine l.1 l.2) =
      ((lines.map fun l => fileLine l.1 l.2).filterMap (deliveredOf parser), none) :=
  stream_independent parser hc _ (by
    intro o ho
    obtain ⟨l, _, rfl⟩ := List.mem_map.1 ho
    exact fileLine_total _ _)

/-- a serial byte stream under any partition into reads: same delivered packets -/
theorem serial_stream (parser : Frame → Py Unit) (chunks : List (List Nat)) :
    recvStream parser ((feedAll [] chunks).2.map portLine) =
      recvStream parser ((splitCRLF chunks.flatten).1.map portLine) := by
  rw [chunking_irrelevant chunks [] noLine_nil, List.nil_append]

/-- non-vacuity: an array-shaped 2309 from a non-controller (the line that used to abort a
    whole replay with a bare AssertionError) is now a clean rejection; a good line is a packet -/
example :
    frameRead true "045  I --- 04:000001 --:------ 01:000002 2309 006 0001F40101F4".toList = .invalid ∧
    frameRead true "045 RP --- 10:067219 18:006402 --:------ 3220 001 00".toList = .invalid ∧
    frameRead true "".toList = .skipped ∧ frameRead false "045  I".toList = .valueError ∧
    (frameRead true "045  I --- 01:145038 --:------ 01:145038 2309 006 0001F40101F4".toList).isEscaped = false ∧
    (match frameRead true "045  I --- 01:145038 --:------ 01:145038 2309 006 0001F40101F4".toList with
      | .packet p => decide (p.lifespan = some 360000000) | _ => false) = true := by
  decide +kernel

end Ramses.C01
