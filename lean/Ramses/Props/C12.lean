/-
  C12 — active discovery reconstructs the controller's configuration, whatever it is.

  `cfg` is an arbitrary configuration (any zones, classes, sensors, actuator lists, DHW parts,
  appliance control); losses are arbitrary per round.  The learner is the abstract one of
  Model/Discovery.lean; that the real gateway learns the same, day by day, is the per-run comparison.
-/
import Ramses.Model.Discovery
import Ramses.Proofs.Fold
import Ramses.Proofs.Basic
namespace Ramses.C12
open Ramses.Disc

def optOk (a b : Option String) : Prop := a = none ∨ a = b

/-- what is known about a zone is true of the controller's zone -/
def ZoneOk (zc : ZoneCfg) (z : ZoneSch) : Prop :=
  (z.cls = none ∨ z.cls = some zc.cls) ∧ (z.sensor = none ∨ z.sensor = zc.sensor) ∧ (∀ d ∈ z.actuators, d ∈ zc.actuators)

/-- **nothing the gateway believes is something the controller did not say** -/
def Consistent (cfg : Cfg) (s : Sch) : Prop :=
  (∀ i z, s.zone i = some z → ∃ zc, cfg.zone i = some zc ∧ ZoneOk zc z) ∧
  optOk s.dhwSensor cfg.dhwSensor ∧ optOk s.hwValve cfg.hwValve ∧ optOk s.htgValve cfg.htgValve ∧ optOk s.app cfg.app

def ZoneLe (z z' : ZoneSch) : Prop :=
  (z.cls ≠ none → z'.cls = z.cls) ∧ (z.sensor ≠ none → z'.sensor = z.sensor) ∧ (∀ d ∈ z.actuators, d ∈ z'.actuators)

def optLe (a b : Option String) : Prop := a ≠ none → b = a

/-- the information order: `s'` knows everything `s` knows -/
def Le (s s' : Sch) : Prop :=
  (∀ i z, s.zone i = some z → ∃ z', s'.zone i = some z' ∧ ZoneLe z z') ∧
  optLe s.dhwSensor s'.dhwSensor ∧ optLe s.hwValve s'.hwValve ∧ optLe s.htgValve s'.htgValve ∧ optLe s.app s'.app

theorem ZoneLe.refl (z : ZoneSch) : ZoneLe z z := ⟨fun _ => rfl, fun _ => rfl, fun _ h => h⟩

theorem Le.refl (s : Sch) : Le s s :=
  ⟨fun _ z h => ⟨z, h, ZoneLe.refl z⟩, fun _ => rfl, fun _ => rfl, fun _ => rfl, fun _ => rfl⟩

theorem optLe_trans {α : Type} {a b c : Option α} (h1 : a ≠ none → b = a) (h2 : b ≠ none → c = b) (h : a ≠ none) :
    c = a := by
  cases h1 h; exact h2 h

theorem ZoneLe.trans {a b c : ZoneSch} (h1 : ZoneLe a b) (h2 : ZoneLe b c) : ZoneLe a c :=
  ⟨optLe_trans h1.1 h2.1, optLe_trans h1.2.1 h2.2.1, fun d hd => h2.2.2 d (h1.2.2 d hd)⟩

theorem Le.trans {a b c : Sch} (h1 : Le a b) (h2 : Le b c) : Le a c := by
  obtain ⟨z1, d1, e1, f1, g1⟩ := h1
  obtain ⟨z2, d2, e2, f2, g2⟩ := h2
  refine ⟨fun i z h => ?_, optLe_trans d1 d2, optLe_trans e1 e2, optLe_trans f1 f2, optLe_trans g1 g2⟩
  obtain ⟨z', hz', l1⟩ := z1 i z h
  obtain ⟨z'', hz'', l2⟩ := z2 i z' hz'
  exact ⟨z'', hz'', l1.trans l2⟩

/-! `keepC` and `keepS` are `Option.or` at two types; `optOk a c` says `a` is below `c` in the order
`optLe`, and so do the class and sensor clauses of `ZoneOk`. -/

theorem keepS_eq_or (a b : Option String) : keepS a b = a.or b := by cases a <;> rfl
theorem keepC_eq_or (a b : Option ZClass) : keepC a b = a.or b := by cases a <;> rfl

theorem keepS_le (a b : Option String) : optLe a (keepS a b) := fun h => by rw [keepS_eq_or, or_of_ne_none h]

theorem keepS_ok {a b c : Option String} (ha : optOk a c) (hb : optOk b c) : optOk (keepS a b) c := by
  rw [keepS_eq_or]; exact or_ok ha hb

theorem keepS_done {a c f : Option String} (hle : optLe (keepS a c) f) (hok : optOk f c) : f = c :=
  or_done (a := a) (keepS_eq_or a c ▸ hle) hok

theorem setZone_zone (s : Sch) (i j : String) (z : ZoneSch) :
    (setZone s i z).zone j = if j = i then some z else s.zone j := rfl

theorem setZone_self (s : Sch) (i : String) (z : ZoneSch) : (setZone s i z).zone i = some z := if_pos rfl

theorem ensureZone_zone (s : Sch) (i j : String) (c : Option ZClass) :
    (ensureZone s i c).zone j = if j = i then some (ensured (s.zone i) c) else s.zone j := rfl

theorem ensureZone_rest (s : Sch) (i : String) (c : Option ZClass) :
    (ensureZone s i c).dhwSensor = s.dhwSensor ∧ (ensureZone s i c).hwValve = s.hwValve ∧
    (ensureZone s i c).htgValve = s.htgValve ∧ (ensureZone s i c).app = s.app := ⟨rfl, rfl, rfl, rfl⟩

/-! Every reply that touches a zone says something about it that is itself a partial zone record `w`
(a class, a sensor, some actuators); learning it joins `w` into what is known of the zone.  A mask
reply creates the zone if need be; the replies to a zone's own requests find it there. -/

/-- join the record `w` into the record `z`: what `z` knows stays, what it lacks is taken from `w` -/
def join (z w : ZoneSch) : ZoneSch := ⟨keepC z.cls w.cls, keepS z.sensor w.sensor, addAll z.actuators w.actuators⟩

/-- what is known of a zone once it has been told `w`: `w` itself if there was no zone yet -/
def told (o : Option ZoneSch) (w : ZoneSch) : ZoneSch := match o with | none => w | some z => join z w

/-- join the record `w` into zone `i` of the schema, creating the zone if it is not there -/
def tell (s : Sch) (i : String) (w : ZoneSch) : Sch := setZone s i (told (s.zone i) w)

theorem addAll_mem (ds : List String) : ∀ (l : List String) (d : String), d ∈ addAll l ds ↔ d ∈ l ∨ d ∈ ds := by
  induction ds with
  | nil => intro l d; simp [addAll]
  | cons x xs ih =>
    intro l d
    -- one step adds `x` unless it is there: either way the members are those of `l`, and `x`
    have step : d ∈ (if l.contains x then l else l ++ [x]) ↔ d ∈ l ∨ d = x := by
      split
      · next hx => exact ⟨Or.inl, fun h => h.elim id fun e => e ▸ List.contains_iff_mem.1 hx⟩
      · rw [List.mem_append, List.mem_singleton]
    rw [addAll, List.foldl_cons, ← addAll, ih, step, List.mem_cons, or_assoc]

theorem join_le (z w : ZoneSch) : ZoneLe z (join z w) :=
  ⟨fun h => by show keepC z.cls w.cls = z.cls; rw [keepC_eq_or, or_of_ne_none h], keepS_le _ _,
    fun d hd => (addAll_mem _ _ d).mpr (Or.inl hd)⟩

theorem join_ok {zc : ZoneCfg} {z w : ZoneSch} (hz : ZoneOk zc z) (hw : ZoneOk zc w) : ZoneOk zc (join z w) :=
  ⟨by show keepC z.cls w.cls = none ∨ keepC z.cls w.cls = _; rw [keepC_eq_or]; exact or_ok hz.1 hw.1,
    keepS_ok hz.2.1 hw.2.1, fun d hd => ((addAll_mem _ _ d).mp hd).elim (hz.2.2 d) (hw.2.2 d)⟩

theorem tell_zone (s : Sch) (i : String) (w : ZoneSch) : (tell s i w).zone i = some (told (s.zone i) w) :=
  setZone_self s i _

theorem tell_le (s : Sch) (i : String) (w : ZoneSch) : Le s (tell s i w) := by
  refine ⟨fun j z hz => ?_, fun _ => rfl, fun _ => rfl, fun _ => rfl, fun _ => rfl⟩
  rw [tell, setZone_zone]
  split
  · next h => subst h; rw [hz]; exact ⟨_, rfl, join_le z w⟩
  · exact ⟨z, hz, ZoneLe.refl z⟩

theorem Consistent.zone {cfg : Cfg} {s : Sch} (hs : Consistent cfg s) {i : String} {z : ZoneSch} {zc : ZoneCfg}
    (hz : s.zone i = some z) (hzc : cfg.zone i = some zc) : ZoneOk zc z := by
  obtain ⟨zc', hzc', hok⟩ := hs.1 i z hz
  cases hzc.symm.trans hzc'; exact hok

theorem Consistent.exists {cfg : Cfg} {s : Sch} (hs : Consistent cfg s) {i : String} (h : (s.zone i).isSome) :
    ∃ zc, cfg.zone i = some zc := by
  obtain ⟨z, hz⟩ := Option.isSome_iff_exists.mp h
  exact (hs.1 i z hz).imp fun _ h => h.1

theorem Consistent.zone_none {cfg : Cfg} {s : Sch} (hs : Consistent cfg s) {i : String} (hzc : cfg.zone i = none) :
    s.zone i = none := by
  refine Option.not_isSome_iff_eq_none.mp fun h => ?_
  obtain ⟨zc, hzc'⟩ := hs.exists h
  cases hzc.symm.trans hzc'

theorem tell_sound {cfg : Cfg} {s : Sch} {i : String} {w : ZoneSch} {zc : ZoneCfg} (hs : Consistent cfg s)
    (hzc : cfg.zone i = some zc) (hw : ZoneOk zc w) : Consistent cfg (tell s i w) := by
  refine ⟨fun j z hz => ?_, hs.2⟩
  rw [tell, setZone_zone] at hz
  split at hz
  · next h =>
    subst h; cases hz
    refine ⟨zc, hzc, ?_⟩
    cases hz : s.zone j with
    | none => exact hw
    | some z => exact join_ok (hs.zone hz hzc) hw
  · exact hs.1 j z hz

theorem keepS_none (a : Option String) : keepS a none = a := by cases a <;> rfl
theorem keepC_none (a : Option ZClass) : keepC a none = a := by cases a <;> rfl

theorem setZone_same {s : Sch} {i : String} {z : ZoneSch} (h : s.zone i = some z) : setZone s i z = s := by
  cases s
  simp only [setZone, Sch.mk.injEq, and_true]
  funext j
  split
  · next hj => rw [hj]; exact h.symm
  · rfl

theorem ensureZone_eq (s : Sch) (i : String) (c : Option ZClass) : ensureZone s i c = tell s i ⟨c, none, []⟩ := by
  unfold ensureZone tell
  congr 1
  cases s.zone i with
  | none => rfl
  | some z => show ZoneSch.mk _ _ _ = join z _; rw [join, keepS_none]; rfl

theorem learn_zoneAct_none (s : Sch) (i : String) (role : Option ZClass) (devs : List String) (h : s.zone i = none) :
    learn s (.zoneAct i role devs) = s := by simp only [learn, h]

theorem learn_zoneAct_some (s : Sch) (i : String) (role : Option ZClass) (devs : List String) (z : ZoneSch)
    (h : s.zone i = some z) :
    learn s (.zoneAct i role devs) = if devs = [] then s else
      setZone s i { z with actuators := addAll z.actuators devs, cls := keepC z.cls role } := by
  simp only [learn, h]

theorem learn_zoneSen_some (s : Sch) (i d : String) (z : ZoneSch) (h : s.zone i = some z) :
    learn s (.zoneSen i (some d)) = setZone s i { z with sensor := keepS z.sensor (some d) } := by
  simp only [learn, h]

theorem learn_zoneSen_other (s : Sch) (i : String) (dev : Option String) (h : s.zone i = none ∨ dev = none) :
    learn s (.zoneSen i dev) = s := by
  rcases h with h | h
  · cases dev <;> simp only [learn, h]
  · subst h; cases hz : s.zone i <;> simp only [learn, hz]

theorem learn_zoneAct (s : Sch) (i : String) (role : Option ZClass) (devs : List String) :
    learn s (.zoneAct i role devs) =
      if (s.zone i).isSome ∧ devs ≠ [] then tell s i ⟨role, none, devs⟩ else s := by
  cases hz : s.zone i with
  | none => rw [learn_zoneAct_none s i role devs hz]; rfl
  | some z =>
    rw [learn_zoneAct_some s i role devs z hz]
    by_cases hd : devs = []
    · rw [if_pos hd, if_neg fun h => h.2 hd]
    · rw [if_neg hd, if_pos ⟨rfl, hd⟩, tell, hz, told, join, keepS_none]

theorem learn_zoneSen (s : Sch) (i : String) (dev : Option String) :
    learn s (.zoneSen i dev) = if (s.zone i).isSome then tell s i ⟨none, dev, []⟩ else s := by
  cases hz : s.zone i with
  | none => rw [learn_zoneSen_other s i dev (Or.inl hz)]; rfl
  | some z =>
    rw [if_pos Option.isSome_some, tell, hz, told, join, keepC_none]
    cases dev with
    | none => rw [learn_zoneSen_other s i none (Or.inr rfl), keepS_none]; exact (setZone_same hz).symm
    | some d => rw [learn_zoneSen_some s i d z hz]; rfl

theorem hasClass_iff {cfg : Cfg} {c : ZClass} {i : String} :
    hasClass cfg c i = true ↔ ∃ zc, cfg.zone i = some zc ∧ zc.cls = c := by
  unfold hasClass
  cases cfg.zone i <;> simp

theorem reply_zoneAct {cfg : Cfg} {i : String} {zc : ZoneCfg} (h : cfg.zone i = some zc) (role : Option ZClass) :
    reply cfg (.zoneAct i role) = .zoneAct i role (if role = none ∨ role = some zc.cls then zc.actuators else []) := by
  simp only [reply, h]

theorem reply_zoneSen {cfg : Cfg} {i : String} {zc : ZoneCfg} (h : cfg.zone i = some zc) :
    reply cfg (.zoneSen i) = .zoneSen i zc.sensor := by
  simp only [reply, h, Option.bind_some]


/-- **whatever is learned is never lost or replaced**: every reply only adds -/
theorem learn_le (s : Sch) (r : R) : Le s (learn s r) := by
  cases r with
  | mask c idxs | maskSen idxs =>
    exact foldl_mono Le.refl Le.trans (fun s i => ensureZone_eq s i _ ▸ tell_le s i _) idxs s
  | zoneAct i role devs =>
    rw [learn_zoneAct]
    split
    · exact tell_le s i _
    · exact Le.refl s
  | zoneSen i dev =>
    rw [learn_zoneSen]
    split
    · exact tell_le s i _
    · exact Le.refl s
  | app dev => exact ⟨(Le.refl s).1, fun _ => rfl, fun _ => rfl, fun _ => rfl, keepS_le _ _⟩
  | dhwSensor dev => exact ⟨(Le.refl s).1, keepS_le _ _, fun _ => rfl, fun _ => rfl, fun _ => rfl⟩
  | hwValve dev => exact ⟨(Le.refl s).1, fun _ => rfl, keepS_le _ _, fun _ => rfl, fun _ => rfl⟩
  | htgValve dev => exact ⟨(Le.refl s).1, fun _ => rfl, fun _ => rfl, keepS_le _ _, fun _ => rfl⟩

/-- **nothing is learned that the controller did not say**: every reply of the controller keeps the
    gateway's beliefs true of the controller's configuration -/
theorem learn_sound (cfg : Cfg) (s : Sch) (q : Q) (hs : Consistent cfg s) : Consistent cfg (learn s (reply cfg q)) := by
  cases q with
  | mask c =>
    refine foldl_inv (P := Consistent cfg) _ s (fun s j hj hs => ?_) hs
    obtain ⟨zc, hz, rfl⟩ := hasClass_iff.mp (List.mem_filter.mp hj).2
    exact ensureZone_eq s j _ ▸ tell_sound hs hz ⟨Or.inr rfl, Or.inl rfl, nofun⟩
  | maskSen =>
    refine foldl_inv (P := Consistent cfg) _ s (fun s j hj hs => ?_) hs
    have := (List.mem_filter.mp hj).2
    unfold hasSensor at this
    cases hz : cfg.zone j with
    | none => simp [hz] at this
    | some zc => exact ensureZone_eq s j _ ▸ tell_sound hs hz ⟨Or.inl rfl, Or.inl rfl, nofun⟩
  | zoneAct i role =>
    by_cases h : (s.zone i).isSome
    · obtain ⟨zc, hzc⟩ := hs.exists h
      rw [reply_zoneAct hzc, learn_zoneAct]
      -- a role that is not the zone's class gets an empty reply, which teaches nothing
      by_cases hr : role = none ∨ role = some zc.cls
      · rw [if_pos hr]
        split
        · exact tell_sound hs hzc ⟨hr, Or.inl rfl, fun _ h => h⟩
        · exact hs
      · rw [if_neg hr, if_neg fun h => h.2 rfl]; exact hs
    · rw [reply, learn_zoneAct, if_neg fun h' => h h'.1]; exact hs
  | zoneSen i =>
    rw [reply, learn_zoneSen]
    split
    · next h =>
      obtain ⟨zc, hzc⟩ := hs.exists h
      exact tell_sound hs hzc ⟨Or.inl rfl, Or.inr (hzc ▸ rfl), nofun⟩
    · exact hs
  | app => exact ⟨hs.1, hs.2.1, hs.2.2.1, hs.2.2.2.1, keepS_ok hs.2.2.2.2 (Or.inr rfl)⟩
  | dhwSensor => exact ⟨hs.1, keepS_ok hs.2.1 (Or.inr rfl), hs.2.2.1, hs.2.2.2.1, hs.2.2.2.2⟩
  | hwValve => exact ⟨hs.1, hs.2.1, keepS_ok hs.2.2.1 (Or.inr rfl), hs.2.2.2.1, hs.2.2.2.2⟩
  | htgValve => exact ⟨hs.1, hs.2.1, hs.2.2.1, keepS_ok hs.2.2.2.1 (Or.inr rfl), hs.2.2.2.2⟩

/-- what every reply preserves, every batch of requests preserves, whatever is lost -/
theorem ask_inv {P : Sch → Prop} {cfg : Cfg} (hP : ∀ s q, P s → P (learn s (reply cfg q))) (lost : Q → Bool)
    (qs : List Q) (s : Sch) (h : P s) : P (ask cfg lost s qs) :=
  foldl_inv qs s (fun s q _ h => by
    split
    · exact h  -- the exchange is lost
    · exact hP s q h) h

theorem rounds_inv {P : Sch → Prop} {cfg : Cfg} (hP : ∀ s q, P s → P (learn s (reply cfg q))) :
    ∀ (ls : List (Q → Bool)) (s : Sch), P s → P (rounds cfg ls s)
  | [], _, h => h
  | l :: ls, s, h => rounds_inv hP ls (round cfg l s) (ask_inv hP l _ _ (ask_inv hP l _ s h))

theorem ask_le (cfg : Cfg) (lost : Q → Bool) (qs : List Q) (s : Sch) : Le s (ask cfg lost s qs) :=
  ask_inv (P := Le s) (fun s' _ h => h.trans (learn_le s' _)) lost qs s (Le.refl s)

theorem ask_sound (cfg : Cfg) (lost : Q → Bool) (qs : List Q) (s : Sch) (h : Consistent cfg s) :
    Consistent cfg (ask cfg lost s qs) :=
  ask_inv (learn_sound cfg) lost qs s h

/-- **losses never undo anything**: after any number of rounds with any losses, everything known
    before is still known -/
theorem rounds_le (cfg : Cfg) : ∀ (ls : List (Q → Bool)) (s : Sch), Le s (rounds cfg ls s) :=
  fun ls s => rounds_inv (P := Le s) (fun s' _ h => h.trans (learn_le s' _)) ls s (Le.refl s)

theorem empty_consistent (cfg : Cfg) : Consistent cfg Sch.empty :=
  ⟨nofun, Or.inl rfl, Or.inl rfl, Or.inl rfl, Or.inl rfl⟩

/-- after any number of rounds, with any losses, everything the gateway believes is true of the
    controller -/
theorem rounds_sound (cfg : Cfg) : ∀ (ls : List (Q → Bool)) (s : Sch), Consistent cfg s → Consistent cfg (rounds cfg ls s) :=
  rounds_inv (learn_sound cfg)


def noLoss : Q → Bool := fun _ => false

/-- the controller's zones are among 00 … 0F -/
def InRange (cfg : Cfg) : Prop := ∀ i zc, cfg.zone i = some zc → i ∈ allIdx

def ZoneDone (zc : ZoneCfg) (z : ZoneSch) : Prop :=
  z.cls = some zc.cls ∧ z.sensor = zc.sensor ∧ (∀ d, d ∈ z.actuators ↔ d ∈ zc.actuators)

/-- the schema equals the controller's configuration: the same zones, each with its class, sensor and
    actuators, the DHW parts and the appliance control -/
def Complete (cfg : Cfg) (s : Sch) : Prop :=
  (∀ i, match cfg.zone i with
        | none => s.zone i = none
        | some zc => ∃ z, s.zone i = some z ∧ ZoneDone zc z) ∧
  s.dhwSensor = cfg.dhwSensor ∧ s.hwValve = cfg.hwValve ∧ s.htgValve = cfg.htgValve ∧ s.app = cfg.app

/-- a request that is asked and not lost is learned from, and what it taught is still known at the end -/
theorem asked (cfg : Cfg) {lost : Q → Bool} {q : Q} {qs : List Q} (hq : q ∈ qs) (hl : lost q = false) (s : Sch) :
    ∃ sa, Le s sa ∧ Le (learn sa (reply cfg q)) (ask cfg lost s qs) := by
  obtain ⟨sa, h1, h2⟩ := foldl_mem_mono (f := fun s q => if lost q then s else learn s (reply cfg q))
    Le.refl Le.trans (fun s q => by
      split
      · exact Le.refl s  -- the exchange is lost
      · exact learn_le s _) hq s
  rw [hl] at h2
  exact ⟨sa, h1, h2⟩

theorem told_cls (o : Option ZoneSch) (c : ZClass) : (told o ⟨some c, none, []⟩).cls ≠ none := by
  cases o with
  | none => exact nofun
  | some z => show keepC z.cls (some c) ≠ none; rw [keepC_eq_or]; exact or_some_ne_none _ _

/-- after the system's own requests every zone of the controller exists and has its class -/
theorem sys_phase {cfg : Cfg} (s : Sch) (hr : InRange cfg) (hs : Consistent cfg s) {i : String} {zc : ZoneCfg}
    (hzc : cfg.zone i = some zc) : ∃ z, (ask cfg noLoss s sysQs).zone i = some z ∧ z.cls = some zc.cls := by
  -- the mask request for the zone's class is asked; within its reply the zone is told its class at some point
  obtain ⟨sa, _, hle⟩ := asked cfg (lost := noLoss) (q := .mask zc.cls) (qs := sysQs) (by cases zc.cls <;> simp [sysQs, allClasses]) rfl s
  have hi : i ∈ allIdx.filter (hasClass cfg zc.cls) := List.mem_filter.mpr ⟨hr i zc hzc, hasClass_iff.mpr ⟨zc, hzc, rfl⟩⟩
  obtain ⟨sb, _, hle'⟩ := foldl_mem_mono Le.refl Le.trans (fun s i => ensureZone_eq s i (some zc.cls) ▸ tell_le s i _) hi sa
  obtain ⟨z, hz, hl⟩ := (hle'.trans hle).1 i _ (by rw [ensureZone_eq, tell_zone])
  -- so the zone has a class; by soundness it is the right one
  have hc := hl.1 (told_cls _ _)
  exact ⟨z, hz, ((ask_sound cfg noLoss sysQs s hs).zone hz hzc).1.resolve_left (hc ▸ told_cls _ _)⟩

theorem zoneQs_mem (s : Sch) (i : String) (z : ZoneSch) (hi : i ∈ allIdx) (hz : s.zone i = some z) :
    Q.zoneAct i z.cls ∈ zoneQs s ∧ Q.zoneSen i ∈ zoneQs s := by
  unfold zoneQs
  constructor <;> (rw [List.mem_flatMap]; exact ⟨i, hi, by simp [hz]⟩)

/-- the two requests of a zone that exists and has its class, asked without loss, leave it done: each
    item is known at least (it was asked for, `asked`, and nothing is lost afterwards) and at most
    (soundness of the end state) -/
theorem zone_phase {cfg : Cfg} {s : Sch} (hs : Consistent cfg s) {i : String} {zc : ZoneCfg} {z1 : ZoneSch}
    (hzc : cfg.zone i = some zc) (hi : i ∈ allIdx) (hz1 : s.zone i = some z1) (hc1 : z1.cls = some zc.cls) :
    ∃ z, (ask cfg noLoss s (zoneQs s)).zone i = some z ∧ ZoneDone zc z := by
  obtain ⟨hqa, hqs⟩ := zoneQs_mem s i z1 hi hz1
  rw [hc1] at hqa
  obtain ⟨z2, hz2, hl2⟩ := (ask_le cfg noLoss (zoneQs s) s).1 i z1 hz1
  obtain ⟨-, o2, o3⟩ := (ask_sound cfg noLoss _ s hs).zone hz2 hzc
  -- what a request of the zone tells it is known to `z2`
  have taught : ∀ {q : Q} (w : ZoneSch), q ∈ zoneQs s →
      (∀ sa, (sa.zone i).isSome → learn sa (reply cfg q) = tell sa i w) → ∃ za, ZoneLe (join za w) z2 := by
    intro q w hq hw
    obtain ⟨sa, hlsa, hle⟩ := asked cfg (lost := noLoss) hq rfl s
    obtain ⟨za, hza, _⟩ := hlsa.1 i z1 hz1
    obtain ⟨zf, hzf, hlf⟩ := hle.1 i _ (by rw [hw sa (hza ▸ rfl), tell_zone, hza])
    cases hz2.symm.trans hzf
    exact ⟨za, hlf⟩
  refine ⟨z2, hz2, (hl2.1 (hc1 ▸ nofun)).trans hc1, ?_, fun d => ⟨o3 d, fun hd => ?_⟩⟩
  · obtain ⟨za, h⟩ := taught ⟨none, zc.sensor, []⟩ hqs
      fun sa h => by rw [reply_zoneSen hzc, learn_zoneSen, if_pos h]
    exact keepS_done h.2.1 o2
  · by_cases he : zc.actuators = []
    · rw [he] at hd; cases hd
    · obtain ⟨za, h⟩ := taught ⟨some zc.cls, none, zc.actuators⟩ hqa
        fun sa h => by rw [reply_zoneAct hzc, if_pos (Or.inr rfl), learn_zoneAct, if_pos ⟨h, he⟩]
      exact h.2.2 d ((addAll_mem _ _ d).mpr (Or.inr hd))

/-- **one loss-free polling round completes the schema from any consistent state** — in particular
    from the empty one, and from whatever earlier, lossy rounds have left. -/
theorem round_complete (cfg : Cfg) (s : Sch) (hr : InRange cfg) (hs : Consistent cfg s) :
    Complete cfg (round cfg noLoss s) := by
  have hs1 := ask_sound cfg noLoss sysQs s hs
  have hs2 : Consistent cfg (round cfg noLoss s) := ask_sound cfg noLoss _ _ hs1
  have hsys : ∀ q ∈ sysQs, ∃ sa, Le (learn sa (reply cfg q)) (round cfg noLoss s) := fun q hq =>
    (asked cfg (lost := noLoss) hq rfl s).imp fun sa h => h.2.trans (ask_le cfg noLoss _ _)
  refine ⟨fun i => ?_,
    (hsys .dhwSensor (by simp [sysQs])).elim fun sa h => keepS_done h.2.1 hs2.2.1,
    (hsys .hwValve (by simp [sysQs])).elim fun sa h => keepS_done h.2.2.1 hs2.2.2.1,
    (hsys .htgValve (by simp [sysQs])).elim fun sa h => keepS_done h.2.2.2.1 hs2.2.2.2.1,
    (hsys .app (by simp [sysQs])).elim fun sa h => keepS_done h.2.2.2.2 hs2.2.2.2.2⟩
  cases hzc : cfg.zone i with
  | none => exact hs2.zone_none hzc
  | some zc =>
    obtain ⟨z1, hz1, hc1⟩ := sys_phase s hr hs hzc
    exact zone_phase hs1 hzc (hr i zc hzc) hz1 hc1

theorem rounds_append (cfg : Cfg) : ∀ (a b : List (Q → Bool)) (s : Sch),
    rounds cfg (a ++ b) s = rounds cfg b (rounds cfg a s)
  | [], _, _ => rfl
  | l :: a, b, s => rounds_append cfg a b (round cfg l s)

/-- from whatever earlier rounds have left, as long as it is true of the controller -/
theorem rounds_complete (cfg : Cfg) (hr : InRange cfg) (ls : List (Q → Bool)) {s : Sch} (hs : Consistent cfg s) :
    Complete cfg (rounds cfg (ls ++ [noLoss]) s) := by
  rw [rounds_append]
  exact round_complete cfg _ hr (rounds_sound cfg ls _ hs)

/-- **lost requests or replies only delay discovery**: whatever was lost during any number of
    earlier rounds, one later loss-free round arrives at exactly the controller's configuration -/
theorem loss_only_delays (cfg : Cfg) (hr : InRange cfg) (ls : List (Q → Bool)) :
    Complete cfg (rounds cfg (ls ++ [noLoss]) Sch.empty) :=
  rounds_complete cfg hr ls (empty_consistent cfg)

/-- non-vacuity: a two-zone controller with DHW and a relay; the class reply of day 1 is lost -/
example :
    let cfg : Cfg := ⟨fun i => if i = "00" then some ⟨.rad, some "34:092243", ["04:056053", "04:056057"]⟩
                              else if i = "01" then some ⟨.val, some "01:145038", ["13:106039"]⟩ else none,
                      some "07:046947", some "13:237335", none, some "13:049798"⟩
    let lost1 : Q → Bool := fun q => q == .mask .rad
    let s := rounds cfg [lost1, noLoss] Sch.empty
    (s.zone "00" = some ⟨some .rad, some "34:092243", ["04:056053", "04:056057"]⟩) ∧
    (s.zone "01" = some ⟨some .val, some "01:145038", ["13:106039"]⟩) ∧ s.app = some "13:049798" := by
  decide +kernel

end Ramses.C12
