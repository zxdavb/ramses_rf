/-
  C05 (continuation) — the parsers of 0005, 0404 and 0418: what they report is what the frame carries.
-/
import Ramses.Props.C05
namespace Ramses.C05More

theorem hexToFlag8_bits (v : List Char) (l : List Nat) (h : hexToFlag8 v true = .ok l) : l.length = 8 ∧ ∀ b ∈ l, b ≤ 1 := by
  unfold hexToFlag8 at h
  replace h := (of_guard_ok h).2
  split at h
  · cases h
  · cases h
    refine ⟨rfl, fun b hb => ?_⟩
    simp only [if_true, bitsMsb, List.reverse_cons, List.reverse_nil, List.nil_append, List.cons_append, List.mem_cons,
      List.not_mem_nil, or_false] at hb
    omega

/-- **a zone mask is 8 or 16 flags, each 0 or 1** (0005: which zones are of a class) -/
theorem p0005_mask (f : Frame) (seqx : List Char) (d : Dict) (h : p0005Elem f seqx = .ok d) :
    ∃ (mask : List Nat) (cls : List Char), (mask.length = 8 ∨ mask.length = 16) ∧ (∀ b ∈ mask, b ≤ 1) ∧
      d = [("zone_type", .str (slice seqx 2 4)), ("zone_mask", .arr (mask.map jNat)), ("zone_class", .str cls)] := by
  unfold p0005Elem at h
  -- one flag byte (two ways), or two; what follows the mask is a join point, the same in all three
  obtain ⟨-, h⟩ | ⟨-, h⟩ := of_ite_eq h
  · obtain ⟨m, hm, h⟩ := bind_ok.1 h
    obtain ⟨dn, -, h⟩ := bind_ok.1 h
    exact ⟨m, _, .inl (hexToFlag8_bits _ _ hm).1, (hexToFlag8_bits _ _ hm).2, (Except.ok.inj h).symm⟩
  obtain ⟨-, h⟩ | ⟨-, h⟩ := of_ite_eq h
  · obtain ⟨m, hm, h⟩ := bind_ok.1 h
    obtain ⟨dn, -, h⟩ := bind_ok.1 h
    exact ⟨m, _, .inl (hexToFlag8_bits _ _ hm).1, (hexToFlag8_bits _ _ hm).2, (Except.ok.inj h).symm⟩
  · obtain ⟨a, ha, h⟩ := bind_ok.1 h
    obtain ⟨b, hb, h⟩ := bind_ok.1 h
    obtain ⟨_, ⟨⟩, h⟩ := bind_ok.1 h
    obtain ⟨dn, -, h⟩ := bind_ok.1 h
    have h1 := hexToFlag8_bits _ _ ha
    have h2 := hexToFlag8_bits _ _ hb
    exact ⟨a ++ b, _, .inr (by rw [List.length_append, h1.1, h2.1]),
      fun x hx => (List.mem_append.1 hx).elim (h1.2 x) (h2.2 x), (Except.ok.inj h).symm⟩

/-- **a schedule fragment is reported verbatim, with the length the frame announces** (RP / W 0404) -/
theorem p0404_fragment (f : Frame) (d : Dict) (hv : f.verb ≠ vRQ) (hi : f.verb ≠ vI)
    (hff : slice f.payload 12 14 ≠ Gen.domFF.toList) (h : p0404 f = .ok (.dict d)) :
    ∃ flen num tot, ofHex (slice f.payload 8 10) = some flen ∧ flen * 2 = (f.payload.drop 14).length ∧
      d = [("frag_number", jNat num), ("total_frags", jNat tot),
           ("frag_length", if slice f.payload 8 10 = s "FF" then .null else jNat flen), ("fragment", .str (f.payload.drop 14))] := by
  obtain ⟨_, -, h⟩ := bind_ok.1 h
  obtain ⟨flen, hl, h⟩ := bind_ok.1 h
  obtain ⟨hq, h⟩ := of_guard_ok h
  obtain ⟨num, -, h⟩ := bind_ok.1 h
  rw [if_neg hv, if_neg hi, if_neg hff] at h
  obtain ⟨tot, -, h⟩ := bind_ok.1 h
  -- the length check did not raise although the verb is not I
  exact ⟨flen, num, tot, pyInt16_ok.1 hl, by simpa [hi] using hq, (Parsed.dict.inj (Except.ok.inj h)).symm⟩

/-- the log index an `I|0418` / `RQ|0418` reports is the one carried in the frame -/
theorem p0418_idx (f : Frame) (d : Dict) (hv : f.verb = vRQ ∨ f.verb = vI) (h : p0418 f = .ok (.dict d)) :
    ∃ rest, d = ("log_idx", .str (slice f.payload 4 6)) :: rest := by
  unfold p0418 at h
  obtain ⟨-, h⟩ | ⟨hq, h⟩ := of_ite_eq h
  · exact ⟨_, (Parsed.dict.inj (Except.ok.inj h)).symm⟩
  obtain ⟨ts, -, h⟩ := bind_ok.1 h
  cases ts with
  | none =>
    rw [if_pos (hv.resolve_left hq)] at h
    exact ⟨_, (Parsed.dict.inj (Except.ok.inj h)).symm⟩
  | some stamp =>
    obtain ⟨_, -, h⟩ := bind_ok.1 h
    obtain ⟨dev, -, h⟩ := bind_ok.1 h
    exact ⟨_, (Parsed.dict.inj (Except.ok.inj h)).symm⟩

end Ramses.C05More
