/-
  C03 — command builders emit valid frames of the advertised verb/code that decode back.

  Model: Model/Builders.lean (a core of CODE_API_MAP) over Model/Frame.lean (Command._from_attrs),
  Model/Codec.lean and the regenerated schema regexes.
-/
import Ramses.Model.Builders
import Ramses.Props.C02
import Ramses.Props.C04
namespace Ramses.C03

/-- `_check_idx` returns two upper-hex characters of a zone 00–0F or a domain F9/FA/FC, and
    refuses everything else -/
theorem checkIdx_sound (a : IdxArg) (i : List Char) (h : checkIdx a = .ok i) :
    ∃ n, i = fmtHex 2 n ∧ (n ≤ 15 ∨ n = 0xF9 ∨ n = 0xFA ∨ n = 0xFC) := by
  unfold checkIdx at h
  rcases a with n | t
  · rcases of_ite_eq h with ⟨hr, h⟩ | ⟨_, h⟩
    · exact ⟨n.toNat, (Except.ok.inj h).symm, by omega⟩
    · cases h
  · simp only at h
    cases ho : ofHex (if t = "HW".toList then "FA".toList else t) with
    | none => rw [ho] at h; cases h
    | some n =>
      rw [ho] at h
      rcases of_ite_eq h with ⟨hr, h⟩ | ⟨_, h⟩
      · exact ⟨n, (Except.ok.inj h).symm, hr⟩
      · cases h

theorem checkIdx_refuses (n : Int) (h : ¬ ((0 ≤ n ∧ n ≤ 15) ∨ n = 0xF9 ∨ n = 0xFA ∨ n = 0xFC)) :
    checkIdx (.int n) = .error .cmdInvalid := if_neg h

theorem checkIdx_length (a : IdxArg) (i : List Char) (h : checkIdx a = .ok i) : i.length = 2 := by
  obtain ⟨n, rfl, hr⟩ := checkIdx_sound a i h
  exact fmtHex_length 2 n

theorem checkIdx_nat (n : Nat) (h : n ≤ 15) : checkIdx (.int n) = .ok (fmtHex 2 n) := by
  rw [checkIdx, if_pos (by omega), Int.toNat_natCast]

/-- what `Command._from_attrs` returns, whole: the record whose printed text it parsed -/
theorem fromAttrs_frame (verb code payload a0 a1 a2 : List Char) (f : Frame)
    (hv : verb.length = 2) (hc : code.length = 4)
    (h : fromAttrs verb code payload a0 a1 a2 none = .ok f) :
    f = ⟨verb, "---".toList,
      slice ((if a0 = [] then nonId else a0) ++ ' ' :: (if a1 = [] then nonId else a1) ++ ' ' ::
        (if a2 = [] then nonId else a2)) 0 9,
      slice ((if a0 = [] then nonId else a0) ++ ' ' :: (if a1 = [] then nonId else a1) ++ ' ' ::
        (if a2 = [] then nonId else a2)) 10 19,
      slice ((if a0 = [] then nonId else a0) ++ ' ' :: (if a1 = [] then nonId else a1) ++ ' ' ::
        (if a2 = [] then nonId else a2)) 20 29,
      code, toDecW 3 (payload.length / 2), payload⟩ := by
  unfold fromAttrs at h
  have nv : ∀ c, ¬ verb = [c] := fun c e => by rw [e] at hv; cases hv
  simp only [nv, if_false] at h
  generalize (if a0 = [] then nonId else a0) ++ ' ' :: (if a1 = [] then nonId else a1) ++ ' ' ::
    (if a2 = [] then nonId else a2) = J at h ⊢
  cases hr : pktAddrs (slice J 0 9) (slice J 10 19) (slice J 20 29) with
  | error e => rw [hr] at h; cases h
  | ok r =>
    rw [hr] at h
    -- the text handed to `Command(...)` is a printed frame, so the fields read off it are that frame's
    obtain ⟨l0, l1, l2⟩ := C02.pktAddrs_len hr
    -- an accepted text has at most 96 characters from column 46 on (COMMAND_REGEX), and the payload is its end:
    -- so the byte count has three digits
    have hp : payload.length / 2 < 1000 := by
      obtain ⟨-, -, -, -, -, -, -, hps⟩ := C02.core_shape (C02.accepted_core _ f (C02.parseCommand_ok h))
      obtain ⟨-, h96, -, -⟩ := C02.payloadShape hps
      simp only [List.length_drop, List.length_append, List.length_cons] at h96
      omega
    have hfd : fmtDec3 (payload.length / 2) = toDecW 3 (payload.length / 2) := if_pos hp
    have hg := (C02.fields_of_print
      ⟨verb, "---".toList, slice J 0 9, slice J 10 19, slice J 20 29, code, fmtDec3 (payload.length / 2), payload⟩
      hv rfl l0 l1 l2 hc (by rw [hfd]; exact toDecW_length 3 _)).1
    rw [← hfd, ← (C02.parseFrame_ok.1 (C02.parseCommand_ok h)).2.2.2]
    exact hg

/-- if the generic constructor succeeds, the command has exactly the verb, code and payload it
    was given, no sequence number, and a length field equal to the payload's byte count -/
theorem fromAttrs_fields (verb code payload a0 a1 a2 : List Char) (f : Frame)
    (hv : verb.length = 2) (hc : code.length = 4) (hp : payload.length / 2 < 1000)
    (h : fromAttrs verb code payload a0 a1 a2 none = .ok f) :
    f.verb = verb ∧ f.code = code ∧ f.payload = payload ∧ f.seqn = "---".toList ∧
    f.len = toDecW 3 (payload.length / 2) := by
  rw [fromAttrs_frame _ _ _ _ _ _ f hv hc h]
  exact ⟨rfl, rfl, rfl, rfl, rfl⟩

/-- a command built by `from_attrs(verb, dest, code, payload)`: the fields as given, sent from the
    gateway placeholder 18:000730 -/
theorem fromAttrsDest_fields (verb dest code payload : List Char) (f : Frame)
    (hv : verb.length = 2) (hc : code.length = 4)
    (h : fromAttrsDest verb dest code payload = .ok f) :
    f.verb = verb ∧ f.code = code ∧ f.payload = payload ∧ f.seqn = "---".toList ∧
    f.len = toDecW 3 (payload.length / 2) ∧ f.a0 = hgiId := by
  have first : ∀ x y : List Char,
      slice ((if hgiId = [] then nonId else hgiId) ++ ' ' :: x ++ ' ' :: y) 0 9 = hgiId := fun x y => by
    rw [if_neg (by decide), List.append_assoc]
    exact (field_at (a := 0) rfl (by decide)).1
  unfold fromAttrsDest at h
  split at h <;> rw [fromAttrs_frame _ _ _ _ _ _ f hv hc h] <;> exact ⟨rfl, rfl, rfl, rfl, rfl, first _ _⟩

/-! ### key: every modelled constructor builds the verb/code it is registered under -/

/-- the eight indexed requests (RQ|0004, 000A, 2349, 2309, 30C9, 12B0, 10A0, 1260) -/
theorem getIndexed_key (code suffix : String) (ctl : List Char) (idx : IdxArg) (f : Frame)
    (hc : code.toList.length = 4) (hs : suffix.toList.length ≤ 2)
    (h : getIndexed code suffix ctl idx = .ok f) :
    f.verb = vRQ ∧ f.code = code.toList ∧
    ∃ n, (n ≤ 15 ∨ n = 0xF9 ∨ n = 0xFA ∨ n = 0xFC) ∧ f.payload = fmtHex 2 n ++ suffix.toList := by
  unfold getIndexed at h
  split at h
  · cases h
  · next i hi =>
    have := fromAttrsDest_fields vRQ ctl code.toList (i ++ suffix.toList) f rfl hc h
    obtain ⟨n, rfl, hr⟩ := checkIdx_sound idx i hi
    exact ⟨this.1, this.2.1, n, hr, this.2.2.1⟩

theorem setZoneSetpoint_payload (ctl : List Char) (idx : IdxArg) (sp : Bool × Dy) (f : Frame)
    (h : setZoneSetpoint ctl idx sp = .ok f) :
    f.verb = vW ∧ f.code = "2309".toList ∧
    ∃ i, checkIdx idx = .ok i ∧ f.payload = i ++ C04.word (centiOfTemp sp.1 sp.2) ∧
      -(2 ^ 15) ≤ centiOfTemp sp.1 sp.2 ∧ centiOfTemp sp.1 sp.2 < 2 ^ 15 := by
  unfold setZoneSetpoint at h
  split at h
  · cases h
  · next i hi =>
    split at h
    · cases h
    · next hx hh =>
      obtain ⟨w1, w2, rfl⟩ := C04.temp_no_wrap sp.1 sp.2 hx hh
      have := fromAttrsDest_fields vW ctl "2309".toList _ f rfl rfl h
      exact ⟨this.1, this.2.1, i, hi, this.2.2.1, w1, w2⟩

theorem setZoneSetpoint_key (ctl : List Char) (idx : IdxArg) (sp : Bool × Dy) (f : Frame)
    (h : setZoneSetpoint ctl idx sp = .ok f) :
    f.verb = vW ∧ f.code = "2309".toList ∧
    ∃ n, (n ≤ 15 ∨ n = 0xF9 ∨ n = 0xFA ∨ n = 0xFC) ∧
      f.payload = fmtHex 2 n ++ C04.word (centiOfTemp sp.1 sp.2) ∧
      -(2 ^ 15) ≤ centiOfTemp sp.1 sp.2 ∧ centiOfTemp sp.1 sp.2 < 2 ^ 15 := by
  obtain ⟨hv, hc, i, hi, hp, w⟩ := setZoneSetpoint_payload ctl idx sp f h
  obtain ⟨n, rfl, hr⟩ := checkIdx_sound idx i hi
  exact ⟨hv, hc, n, hr, hp, w⟩

def hexCls : Re := Re.cls [(48, 57), (65, 70)] false

theorem hexCls_deriv (c : Char) (h : isUpperHex c = true) : hexCls.deriv c = Re.eps := by
  have : Re.inRanges c.toNat [(48, 57), (65, 70)] = true := by
    unfold isUpperHex at h
    simpa only [Re.inRanges, Bool.or_false] using h
  show (if (Re.inRanges c.toNat [(48, 57), (65, 70)] != false) = true then Re.eps else Re.none) = Re.eps
  rw [this]
  rfl

/-- `[0-9A-F]{n}` matches every string of n upper-hex characters -/
theorem hexRep_match (n : Nat) (s : List Char) (hl : s.length = n) (hs : allB isUpperHex s = true) :
    (Re.rep hexCls n (some n)).fullMatch s = true := by
  induction n generalizing s with
  | zero => cases List.eq_nil_of_length_eq_zero hl; rfl
  | succ n ih =>
    match s, hl with
    | c :: cs, hl =>
      rw [allB, List.all_cons, Bool.and_eq_true] at hs
      -- one step of the derivative: `c` is consumed by the class, `{n}` is left
      show (Re.mkSeq (hexCls.deriv c) (Re.rep hexCls n (some n))).fullMatch cs = true
      rw [hexCls_deriv c hs.1]
      exact ih cs (Nat.succ.inj hl) hs.2

/-- the W|2309 regex of the *generated* schema is `^0[0-9A-F]{5}$` … -/
theorem schema_W_2309 : schemaLookup "2309".toList vW =
    some [⟨Re.seq (Re.chr '0') (Re.rep hexCls 5 (some 5)), true⟩] := by decide +kernel

/-- … and it accepts `0` + any five upper-hex characters -/
theorem accepts_W_2309 (rest : List Char) (hl : rest.length = 5) (hs : allB isUpperHex rest = true) :
    ∃ pat, schemaLookup "2309".toList vW = some pat ∧ pat.matches ('0' :: rest) = true := by
  refine ⟨_, schema_W_2309, ?_⟩
  -- what is left of `0[0-9A-F]{5}` after the `0` is `[0-9A-F]{5}`, by evaluation
  have : (Re.seq (Re.chr '0') (Re.rep hexCls 5 (some 5))).fullMatch ('0' :: rest) = true :=
    hexRep_match 5 rest hl hs
  simp only [Pattern.matches, List.any_cons, PatAlt.matches, if_true, this, Bool.true_or]

/-- every payload the 8 indexed requests emit for a zone 00–0F is accepted by the generated
    schema regex of its RQ|code (16 payloads x 8 codes, evaluated by the kernel) -/
def rqAccepted (code suffix : String) (n : Nat) : Bool :=
  match schemaLookup code.toList vRQ with
  | some pat => pat.matches (fmtHex 2 n ++ suffix.toList)
  | none => false

theorem zone_requests_accepted :
    ∀ cs ∈ [("0004", "00"), ("000A", ""), ("2349", ""), ("2309", ""), ("30C9", ""), ("12B0", "")],
      allIn 4 0 (rqAccepted cs.1 cs.2) = true := by decide +kernel

/-- the DHW requests are accepted for the two DHW indexes 00/01 … -/
theorem dhw_requests_accepted :
    ∀ c ∈ ["10A0", "1260"], rqAccepted c "" 0 = true ∧ rqAccepted c "" 1 = true := by decide +kernel

/-- … and (a recorded finding) for no other index the guard lets through -/
theorem dhw_idx_gt1_rejected_witness : rqAccepted "10A0" "" 2 = false ∧ rqAccepted "1260" "" 2 = false := by
  decide +kernel


/-- the decoder's dispatch: a 2309 payload that is no array and no bare request is one setpoint,
    read at `[2:]` -/
theorem parser_2309 (f : Frame) (hc : f.code = "2309".toList) (hv : f.verb ≠ vRQ) :
    parser f false = (jTemp (f.payload.drop 2)).map fun t => .dict [("setpoint", t)] := by
  unfold parser
  simp only [hc, hv, decide_false, Bool.false_and, Bool.and_false]
  cases jTemp (f.payload.drop 2) <;> rfl

/-- **W|2309 round trip**: for every zone 00–0F and every setpoint k/100 on the wire grid
    (0.00 … 327.66 °C, non-sentinel), `set_zone_setpoint` builds a W|2309 whose payload the
    generated regex accepts and whose decoded setpoint is exactly the value passed in -/
theorem setZoneSetpoint_roundtrip (ctl : List Char) (n : Nat) (hn : n ≤ 15) (k : Int)
    (hk0 : 0 ≤ k) (hk1 : k ≤ 32767) (hks : ¬ C04.sentinel k) (f : Frame)
    (h : setZoneSetpoint ctl (.int n) (false, divInt k.natAbs 100) = .ok f) :
    f.verb = vW ∧ f.code = "2309".toList ∧
    (∃ pat, schemaLookup f.code f.verb = some pat ∧ pat.matches f.payload = true) ∧
    parser f false = .ok (.dict [("setpoint", jsonOfTemp (tempOfCenti k))]) := by
  obtain ⟨hv, hc, i, hi, hp, _⟩ := setZoneSetpoint_payload ctl (.int n) _ f h
  -- the index guard returned n itself, and the hundredths asked for are k
  rw [checkIdx_nat n hn] at hi
  cases hi
  have hcent : centiOfTemp false (divInt k.natAbs 100) = k := by
    have := C04.centi_roundtrip k (by omega) hk1
    rwa [decide_eq_false (by omega : ¬ k < 0)] at this
  rw [hcent] at hp
  refine ⟨hv, hc, ?_, ?_⟩
  · have hidx : fmtHex 2 n = ['0', hexDigit n] := by
      rw [fmtHex_eq 2 n (by decide) (by omega)]
      simp only [toHexW, (by omega : n / 16 = 0), (by omega : n % 16 = n)]
      rfl
    rw [hc, hv, hp, hidx]
    exact accepts_W_2309 (hexDigit n :: C04.word k) (by rw [List.length_cons, C04.word_length (by omega) hk1])
      (by rw [allB, List.all_cons, isUpperHex_hexDigit n (by omega), C04.word_eq]; exact fmtHex_allHex 4 _)
  · have hdec := C04.temp_enc_dec k (by omega) hk1 hks
    rw [C04.temp_encode k (by omega) hk1, bind_ok_eq] at hdec
    rw [parser_2309 f hc (by rw [hv]; decide), hp, List.drop_left' (fmtHex_length 2 n), jTemp, hdec]
    rfl

end Ramses.C03
