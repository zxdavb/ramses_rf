/-
  C02 (log clause) — a packet written to the packet log is read back identically: same time stamp
  (to the microsecond), same RSSI and frame text — for every valid time stamp from year 1000 on.
-/
import Ramses.Model.LogLine
import Ramses.Proofs.Fields
namespace Ramses.C02Log
open Ramses.LogLine

theorem takeDec_toDecW (w n : Nat) (rest : List Char) (hw : 0 < w) (h : n < 10 ^ w) :
    takeDec w (toDecW w n ++ rest) = some (n, rest) := by
  unfold takeDec
  have hl := toDecW_length w n
  rw [if_neg (by simp [hl])]
  rw [List.take_left' hl, List.drop_left' hl]
  unfold ofDec
  have hne : toDecW w n ≠ [] := by intro e; rw [e] at hl; simp at hl; omega
  rw [if_neg hne]
  have := ofDecAux_toDecW w n 0 [] h
  simp only [List.append_nil, Nat.zero_mul, Nat.zero_add] at this
  rw [this]; rfl

theorem toDec_big (y : Nat) (h : 1000 ≤ y) : toDec y = toDecW 4 y := by
  unfold toDec
  rw [if_neg (by omega), if_neg (by omega), if_neg (by omega)]

theorem fmtIso_eq (t : Stamp) (hy : 1000 ≤ t.dt.year) : fmtIso t = fmtStamp t := by
  unfold fmtIso fmtStamp; rw [toDec_big _ hy]

theorem fmtIso_length (t : Stamp) : (fmtIso t).length = 26 := by
  simp only [fmtIso, List.length_append, List.length_cons, toDecW_length]

/-- the ISO form (zero-padded year) is read back for *every* valid time stamp, years 1-9999 -/
theorem parse_iso (t : Stamp) (hv : t.valid = true) : parseStamp (fmtIso t) = some t := by
  obtain ⟨hdt, hus⟩ : t.dt.valid = true ∧ t.us < 1000000 := by
    simpa only [Stamp.valid, Bool.and_eq_true, decide_eq_true_eq] using hv
  obtain ⟨_, hy, _, hmo, _, hd, hh, hmi, hs⟩ := valid_bounds t.dt hdt
  unfold parseStamp
  rw [if_neg (by rw [fmtIso_length]; decide)]
  unfold fmtIso
  -- seven numbers, each read back by `takeDec_toDecW` (the last below), each separator accepted
  simp only [List.append_assoc, List.cons_append, takeDec_toDecW, Nat.reducePow, Nat.reduceLT,
    (by omega : t.dt.year < 10000), (by omega : t.dt.month < 100), (by omega : t.dt.day < 100),
    (by omega : t.dt.hour < 100), (by omega : t.dt.minute < 100), (by omega : t.dt.second < 100),
    Option.bind_some, expect, decide_true, Bool.true_or, if_true]
  rw [← List.append_nil (toDecW 6 t.us), takeDec_toDecW 6 t.us [] (by decide) hus]
  exact if_pos hv

theorem fmtStamp_length (t : Stamp) (hy : 1000 ≤ t.dt.year) : (fmtStamp t).length = 26 :=
  fmtIso_eq t hy ▸ fmtIso_length t

/-- **the time stamp the logger writes is the one the reader gets**: from year 1000 on `%Y` has its
    four digits and what is written is the ISO stamp -/
theorem parse_fmt (t : Stamp) (hv : t.valid = true) (hy : 1000 ≤ t.dt.year) : parseStamp (fmtStamp t) = some t :=
  fmtIso_eq t hy ▸ parse_iso t hv

/-- the cut both readers make, `line[:26]` and `line[27:]` -/
theorem cut_stamp {s : List Char} (rest : List Char) (h : s.length = 26) :
    (s ++ ' ' :: rest).take 26 = s ∧ (s ++ ' ' :: rest).drop 27 = rest := by
  obtain ⟨e, c⟩ := field_first (s := s ++ ' ' :: rest) rfl h
  exact ⟨e, (field_at (x := [' ']) (b := 27) c rfl).2⟩

/-- **a saved-state entry restores to the same time stamp and the same text** (C16: the snapshot's own format) -/
theorem snapEntry_restores (t : Stamp) (rest : List Char) (hv : t.valid = true) :
    parseStamp (snapEntry t rest).1 = some t ∧ (snapEntry t rest).2 = rest := by
  obtain ⟨e1, e2⟩ := cut_stamp rest (fmtIso_length t)
  unfold snapEntry
  simp only [e1, e2]
  exact ⟨parse_iso t hv, trivial⟩

/-- **log write-then-read is the identity**: for every valid time stamp (year 1000 or later), every
    RSSI text and every frame text -/
theorem read_write (t : Stamp) (rssi frame : List Char) (hv : t.valid = true) (hy : 1000 ≤ t.dt.year) :
    readLine (writeLine t rssi frame) = some (t, rssi ++ ' ' :: frame) := by
  have hl : writeLine t rssi frame = fmtStamp t ++ ' ' :: (rssi ++ ' ' :: frame) := by
    simp only [writeLine, List.append_assoc, List.cons_append]
  obtain ⟨e1, e2⟩ := cut_stamp (rssi ++ ' ' :: frame) (fmtStamp_length t hy)
  rw [readLine, hl, e1, e2, parse_fmt t hv hy]
  rfl

/-- the hypothesis `1000 ≤ year` is needed: `%Y` is not padded, so the year-999 stamp has 25
    characters and the reader's fixed columns cut it wrongly -/
theorem year_below_1000_witness :
    readLine (writeLine ⟨⟨999, 1, 1, 0, 0, 0⟩, 0⟩ "045".toList "X".toList) = none := by decide +kernel

/-- non-vacuity: a whole-second stamp (microseconds 0) is written with its six zeros and read back -/
example : fmtStamp ⟨⟨2024, 3, 9, 17, 41, 59⟩, 0⟩ = "2024-03-09T17:41:59.000000".toList ∧
    readLine (writeLine ⟨⟨2024, 3, 9, 17, 41, 59⟩, 0⟩ "045".toList " I --- 01:145038".toList)
      = some (⟨⟨2024, 3, 9, 17, 41, 59⟩, 0⟩, "045  I --- 01:145038".toList) := by decide +kernel

end Ramses.C02Log
