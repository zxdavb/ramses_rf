/-
  C05 — decoded payloads are JSON-able, deterministic, element-wise and index-consistent.

  `decode : Frame → Py Json` (Model/Parsers.lean) is a *function of the packet alone* and its
  values are `Json`: determinism and JSON-ability of the model hold by construction; that the
  implementation computes this function under every decoding history is what the correspondence
  check establishes (fresh / shuffled / caches cleared).  The theorems below are about the
  array-capable codes, the reported index, and value ranges.
-/
import Ramses.Model.Parsers
import Ramses.Proofs.ParserLemmas
import Ramses.Proofs.PyLemmas
import Ramses.Proofs.DblLemmas
namespace Ramses.C05

/-- the seven array-capable codes of the generated table -/
def isArrayCode (code : List Char) : Bool :=
  inS ["0009", "000A", "2309", "30C9", "2249", "22C9", "3150"] code

/-- **an array decodes to exactly the list of its elements' decodes, in order** — for every
    array-capable code, every number of elements (unbounded), every element content -/
theorem array_elementwise (f : Frame) (el : Nat) (es : List (List Char))
    (hcode : isArrayCode f.code = true) (hel : arrElemLen f.code = some el) (hpos : 0 < el)
    (hes : ∀ e ∈ es, e.length = 2 * el) (hp : f.payload = es.flatten) :
    parser f true = (mapM' (decodeElem f.code (f.srcType = Gen.devTypeUFC.toList)) es).map .list := by
  -- `parser f true` is by definition `if <array code> && true then <the array branch> else ..`: only
  -- this first test is decided (unfolding all of `parser` is what costs)
  have hfirst : (isArrayCode f.code && true) = true := by rw [hcode]; rfl
  refine (if_pos hfirst).trans ?_
  -- the array branch: the element length is `el`, and the payload cuts back into `es`
  rw [hel, hp]
  show (mapM' _ (chunks (2 * el) es.flatten)).map Parsed.list = _
  rw [chunks_flatten (2 * el) (by omega) es hes]

/-- the element lengths the theorem is applied with are the generated ones (all positive) -/
theorem array_codes_table :
    arrElemLen "0009".toList = some 3 ∧ arrElemLen "000A".toList = some 6 ∧ arrElemLen "2309".toList = some 3 ∧
    arrElemLen "30C9".toList = some 3 ∧ arrElemLen "2249".toList = some 7 ∧ arrElemLen "22C9".toList = some 6 ∧
    arrElemLen "3150".toList = some 2 := by decide +kernel

def idxKeys : List String := ["zone_idx", "domain_id", "ufh_idx", "ufx_idx"]

theorem withIdx_ok (k : String) (e : List Char) (body : Py Dict) (d : Dict)
    (h : withIdx k e body = .ok d) : ∃ rest, d = (k, Json.str (e.take 2)) :: rest := by
  unfold withIdx at h
  split at h
  · injection h with h; exact ⟨_, h.symm⟩
  · cases h

theorem zoneOrDomainKey_mem (e : List Char) (z : String) (hz : idxKeys.contains z = true) :
    idxKeys.contains (zoneOrDomainKey e z) = true := by
  unfold zoneOrDomainKey
  split
  · decide
  · exact hz

/-- **the index an array element reports is the one carried in the frame**: every decoded
    element starts with an index entry whose value is the element's first byte -/
theorem elem_idx_consistent (code : List Char) (ufc : Bool) (e : List Char) (d : Dict)
    (h : decodeElem code ufc e = .ok d) :
    ∃ k rest, d = (k, Json.str (e.take 2)) :: rest ∧ idxKeys.contains k = true := by
  -- every branch is `withIdx k e _` with `k` an index key
  have wi (k body) (hk : idxKeys.contains k = true) (h : withIdx k e body = .ok d) :
      ∃ k rest, d = (k, Json.str (e.take 2)) :: rest ∧ idxKeys.contains k = true :=
    let ⟨r, hr⟩ := withIdx_ok k e body d h; ⟨k, r, hr, hk⟩
  unfold decodeElem at h
  obtain ⟨-, h⟩ | ⟨-, h⟩ := of_ite_eq h; · exact wi _ _ (zoneOrDomainKey_mem e _ (by decide)) h
  obtain ⟨-, h⟩ | ⟨-, h⟩ := of_ite_eq h; · exact wi _ _ (by decide) h
  obtain ⟨-, h⟩ | ⟨-, h⟩ := of_ite_eq h; · exact wi _ _ (by decide) h
  obtain ⟨-, h⟩ | ⟨-, h⟩ := of_ite_eq h; · exact wi _ _ (by decide) h
  obtain ⟨-, h⟩ | ⟨-, h⟩ := of_ite_eq h; · exact wi _ _ (by decide) h
  obtain ⟨-, h⟩ | ⟨-, h⟩ := of_ite_eq h; · exact wi _ _ (by decide) h
  obtain ⟨-, h⟩ | ⟨-, h⟩ := of_ite_eq h
  · exact wi _ _ (zoneOrDomainKey_mem e _ (by cases ufc <;> decide)) h
  · cases h

/-- a decoded heat demand is a ratio in 0..1 (or null / a fault text) -/
theorem valve_demand_in_unit (v : List Char) (d : Dict) (h : parseValveDemand v = .ok d) :
    d = [("heat_demand", .null)] ∨ (∃ t, d = [("heat_demand_fault", .str t)]) ∨
    (∃ x : Dy, d = [("heat_demand", .num false x)] ∧ x.leFrac 1 1 = true) := by
  unfold parseValveDemand at h
  obtain ⟨-, h⟩ | ⟨-, h⟩ := of_ite_eq (of_guard_ok h).2
  · exact Or.inl (Except.ok.inj h).symm
  split at h
  · cases h
  rename_i n _
  obtain ⟨-, h⟩ | ⟨-, h⟩ := of_ite_eq h
  · exact Or.inr (Or.inl ⟨_, (Except.ok.inj h).symm⟩)
  obtain ⟨-, h⟩ | ⟨-, h⟩ := of_ite_eq h
  · exact Or.inr (Or.inr ⟨_, (Except.ok.inj h).symm, by decide⟩)
  obtain ⟨hle, h⟩ := of_guard_ok h
  exact Or.inr (Or.inr ⟨_, (Except.ok.inj h).symm, divInt_le_one (by omega)⟩)

/-- a decoded temperature lies in the wire range −273.15 … 327.67 °C: it is `k/100` for an
    integer −27315 ≤ k ≤ 32767 -/
theorem temp_in_wire_range (w : List Char) (neg : Bool) (x : Dy) (h : hexToTemp w = .ok (.num neg x)) :
    ∃ k : Int, -27315 ≤ k ∧ k ≤ 32767 ∧ TempV.num neg x = tempOfCenti k := by
  unfold hexToTemp at h
  obtain ⟨hlen, h⟩ := of_check_ok h
  obtain ⟨-, h⟩ | ⟨-, h⟩ := of_ite_eq h; · cases h
  obtain ⟨-, h⟩ | ⟨-, h⟩ := of_ite_eq h; · cases h
  obtain ⟨-, h⟩ | ⟨-, h⟩ := of_ite_eq h; · cases h
  split at h
  · cases h
  rename_i n hn
  have hn16 := ofHex_lt w n hn
  rw [hlen] at hn16
  obtain ⟨hk, h⟩ := of_guard_ok h
  exact ⟨_, by omega, by omega, (Except.ok.inj h).symm⟩

/-- non-vacuity: a real 3-zone array decodes to three elements carrying their own index -/
example :
    (match decode (frameFields " I --- 01:145038 --:------ 01:145038 2309 009 0001F40101F40207D0".toList) with
     | .ok (.arr [.obj [(k0, .str z0), (k1, .num n1 v1)], .obj [(_, .str z1), _], .obj [(_, .str z2), (_, .num _ v2)]]) =>
        decide (k0 = "zone_idx" ∧ z0 = "00".toList ∧ k1 = "setpoint" ∧ n1 = false ∧ v1 = divInt 500 100 ∧
                z1 = "01".toList ∧ z2 = "02".toList ∧ v2 = divInt 2000 100)
     | _ => false) = true := by decide +kernel

end Ramses.C05
