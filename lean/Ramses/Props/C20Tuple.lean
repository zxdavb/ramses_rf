/-
  C20 (continuation) — "both ends report ... the same offer/accept/confirm packets": the packet a
  binding context reports for its *own* Offer / Accept (`binding_fsm._own_pkt`, the repair fa17a7d)
  always carries the header of that command - whatever the send layer handed back (the echo, or,
  when the echo was not heard, the peer's early reply).
-/
import Ramses.Model.Match
namespace Ramses.C20T

/-- the reported packet is the echo or the command itself: it has the command's own header -/
theorem ownPkt_header (cmd pkt own : Frame) (h : ownPkt cmd pkt = .ok own) : txHeader own = txHeader cmd := by
  revert h
  -- leaves 1, 2: a header cannot be computed and `ownPkt` raises; 3: both can
  fun_cases ownPkt cmd pkt <;> intro h <;> cases h
  case case3 ph ch hc hp =>
    split
    · rw [hp, hc, ‹ph = ch›]
    · rfl

/-- a packet with another header - the peer's reply - is never reported as our own frame -/
theorem ownPkt_not_peers (cmd pkt : Frame) (ph ch : List Char) (hp : txHeader pkt = .ok ph) (hc : txHeader cmd = .ok ch)
    (hne : ph ≠ ch) : ownPkt cmd pkt = .ok cmd := by
  unfold ownPkt; rw [hp, hc]; simp only; rw [if_neg hne]

/-- non-vacuity: the respondent's Accept, its echo, and the supplicant's Confirm that arrived instead -/
example :
    let acc := frameFields " W --- 01:220768 34:259472 --:------ 1FC9 006 012309075E60".toList
    let cfm := frameFields " I --- 34:259472 01:220768 --:------ 1FC9 006 0123098BF590".toList
    ownPkt acc acc = .ok acc ∧ ownPkt acc cfm = .ok acc := by decide +kernel

end Ramses.C20T
