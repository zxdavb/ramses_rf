/-
  C03 (continuation) — set_system_time / set_system_mode / the mode normalisation of set_zone_mode and
  set_dhw_mode: what is built decodes to what was asked for, and what is outside the domain is refused.
-/
import Ramses.Props.C03
import Ramses.Props.C04Dtm
import Ramses.Proofs.ParserLemmas
namespace Ramses.C03Time

/-- `dtm.isoformat(timespec="seconds")` as the decoder reports it -/
def isoJson (d : DateTime) : Json :=
  .str (toDecW 4 d.year ++ '-' :: toDecW 2 d.month ++ '-' :: toDecW 2 d.day ++ 'T' :: toDecW 2 d.hour ++
    ':' :: toDecW 2 d.minute ++ ':' :: toDecW 2 d.second)

theorem jDtm_of_ok {v : List Char} {d : DateTime} (h : hexToDtm v = .ok (some d)) : jDtm v = .ok (isoJson d) := by
  unfold jDtm
  rw [h]
  rfl

theorem jDtm_roundtrip (d : DateTime) (hv : d.valid = true) (dst : Bool) :
    jDtm (hexFromDtm (some d) dst true) = .ok (isoJson d) := jDtm_of_ok (C04.dtm_roundtrip_secs d hv dst)

theorem src_of_a0 (f : Frame) (h : f.a0.take 2 ≠ "--".toList) : f.src = f.a0 := by
  unfold Frame.src Frame.srcDst
  rw [List.filter_cons, if_pos (decide_eq_true h)]
  cases [f.a1, f.a2].filter _ <;> rfl

theorem srcType_of_a0 (f : Frame) (h : f.a0 = hgiId) : f.srcType = "18".toList := by
  unfold Frame.srcType
  rw [src_of_a0 f (by rw [h]; decide), h]
  rfl

/-- **W|313F round trip**: for every valid date-time (leap days included) and either DST flag,
    `set_system_time` builds a W|313F from the gateway whose decoded payload carries that very
    date-time, to the second, and the DST flag -/
theorem setSystemTime_roundtrip (ctl : List Char) (d : DateTime) (dst : Bool) (f : Frame) (hv : d.valid = true)
    (h : setSystemTime ctl d dst = .ok f) :
    f.verb = vW ∧ f.code = "313F".toList ∧
    p313F f = .ok (.dict [("datetime", isoJson d), ("is_dst", if dst then .bool true else .null), ("_unknown_0", .str "60".toList)]) := by
  have h9 := (valid_bounds d hv).2.2.2.2.2.2.2.2
  have hdt := C04.hexFromDtm_secs d dst (by omega)
  generalize hsec : (if dst = true then d.second + 128 else d.second) = sec at hdt
  have hs256 : sec < 256 := by rw [← hsec]; split <;> omega
  have hbit : (sec / 128 % 2 = 1) = (dst = true) := by rw [← hsec]; cases dst <;> simp <;> omega
  have hl2 := fmtHex_byte sec hs256
  have hlen : (hexFromDtm (some d) dst true).length = 14 := by
    rw [hdt, List.length_append, hl2, C04.hexFromDtm_nosecs_length (some d) dst (fun _ e => Option.some.inj e ▸ hv)]
  unfold setSystemTime at h
  have hf := C03.fromAttrsDest_fields vW ctl "313F".toList _ f rfl rfl h
  have hst := srcType_of_a0 f hf.2.2.2.2.2
  refine ⟨hf.1, hf.2.1, ?_⟩
  -- the payload is `00`, `60`, then the stamp, whose first byte is the seconds
  have hp : f.payload = "00".toList ++ ("60".toList ++ hexFromDtm (some d) dst true) := hf.2.2.1
  obtain ⟨e1, c4⟩ := field_at (b := 4) (field_first (b := 2) hp rfl).2 rfl
  have e2 := field_last (b := 18) c4 (by rw [hlen]; decide)
  have e3 := (field_at (b := 6) (hdt ▸ c4) (by rw [hl2])).1
  unfold p313F
  have c1 : "18".toList ≠ Gen.devTypeCTL.toList := by decide
  have c2 : (¬['1', '8'] = Gen.devTypeDTS.toList ∧ ¬['1', '8'] = Gen.devTypeDT2.toList) := by decide
  have c3 : "18".toList ≠ Gen.devTypeRFG'.toList := by decide
  simp only [hst, e1, e2, e3, jDtm_roundtrip d hv dst, pyInt16_fmtHex 2 sec, hbit, c1, c3,
    ne_eq, not_false_eq_true, decide_true, Bool.true_or, ok_bind, pure_eq, pyAssert_true]
  cases dst <;> simp [c2, ok_bind, pyAssert_true]

theorem parser_313F (f : Frame) (arr : Bool) (hc : f.code = "313F".toList) : parser f arr = p313F f := by
  unfold parser parserB
  simp only [hc]
  -- what is left compares "313F" with the code literals of the dispatcher
  rfl

/-- the round trip, through the decoder's own dispatch -/
theorem setSystemTime_decodes (ctl : List Char) (d : DateTime) (dst : Bool) (f : Frame) (hv : d.valid = true)
    (h : setSystemTime ctl d dst = .ok f) :
    parser f false = .ok (.dict [("datetime", isoJson d), ("is_dst", if dst then .bool true else .null), ("_unknown_0", .str "60".toList)]) := by
  obtain ⟨_, hc, hp⟩ := setSystemTime_roundtrip ctl d dst f hv h
  rw [parser_313F f false hc, hp]

/-- a leap day, 23:59:59, DST: decodes to itself (non-vacuity of the hypothesis `setSystemTime … = ok f`) -/
example : (setSystemTime "01:145038".toList ⟨2024, 2, 29, 23, 59, 59⟩ true).isOk = true := by decide +kernel

theorem jDtm_roundtrip_nosecs (d : DateTime) (hv : d.valid = true) :
    jDtm (hexFromDtm (some d) false false) = .ok (isoJson { d with second := 0 }) :=
  jDtm_of_ok (C04.dtm_roundtrip_nosecs d hv)

/-- what the decoder reports as `until` for a mode that takes one -/
def untilJson : Option DateTime → Json
  | none => .null
  | some d => isoJson { d with second := 0 }

def noUntilModes : List String := [Gen.sysModeAuto, Gen.sysModeHeatOff, Gen.sysModeAutoWithReset]

/-- what `set_system_mode` and `parser_2e04` need of each row of the table (the name stays a `String`:
    the kernel is slow to spell a long literal out as a list) -/
theorem sysModeMap_row : ∀ k ∈ Gen.sysModeMap, k.1.toList.length = 2 ∧
    inS (Gen.sysModeMap.map (·.1)) k.1.toList = true ∧ lookupS Gen.sysModeMap k.1.toList = some k.2 := by decide +kernel

/-- the decoder's test for the three modes that take no `until` -/
theorem noUntil_eq (m : String) : (m.toList = Gen.sysModeAuto.toList || m.toList = Gen.sysModeHeatOff.toList ||
    m.toList = Gen.sysModeAutoWithReset.toList) = noUntilModes.contains m := by
  simp [noUntilModes, String.toList_inj, Bool.or_assoc]

theorem normMode_key (fwd slugs names : List (String × String)) (t : List Char) (dflt : Option (List Char))
    (h : inS (fwd.map (·.1)) t = true) : normMode fwd slugs names (.str t) dflt = .ok t := if_pos h

theorem flag_length (untl : Option DateTime) : (if untl.isSome then "01".toList else "00".toList).length = 2 := by
  split <;> rfl

/-- `parser_2e04` on an 8-byte payload `<mode><until: 12 hex><flag>` whose mode is in the table -/
theorem p2E04_of_parts (f : Frame) (k : String × String) (hk : k ∈ Gen.sysModeMap) (untl : Option DateTime)
    (hv : ∀ d, untl = some d → d.valid = true)
    (hp : f.payload = k.1.toList ++ hexFromDtm untl false false ++ (if untl.isSome then "01".toList else "00".toList)) :
    p2E04 f = .ok (.dict ([("system_mode", Json.str k.2.toList)] ++
      (if noUntilModes.contains k.1 then [] else [("until", untilJson untl)]))) := by
  obtain ⟨hk2, hin, hget⟩ := sysModeMap_row k hk
  have hH := C04.hexFromDtm_nosecs_length untl false hv
  have hbl : f.blen = 8 := by
    unfold Frame.blen; rw [hp, List.length_append, List.length_append, hk2, hH, flag_length]
  rw [List.append_assoc] at hp
  obtain ⟨e_take, c2⟩ := field_first hp hk2
  obtain ⟨e_mid, c14⟩ := field_at (b := 14) c2 (by rw [hH])
  have e_flag := field_last (b := 16) c14 (by rw [flag_length]; decide)
  unfold p2E04
  simp only [hbl, e_take, e_mid, e_flag, hin, mapGet, hget, noUntil_eq, ok_bind, pure_eq, pyAssert_true, if_true]
  cases hno : noUntilModes.contains k.1
  · cases untl with
    | none => rfl
    | some d =>
      simp only [Bool.false_eq_true, if_false, Option.isSome_some, if_true, jDtm_roundtrip_nosecs d (hv d rfl),
        (by decide : "01".toList ≠ s "00"), ne_eq, not_false_eq_true, ok_bind]
      rfl
  · rfl

/-- **W|2E04 round trip**: for every mode of the table (given by its key) and every `until` (None, or any
    valid date-time, to the minute), `set_system_mode` either refuses (an `until` for auto / heat_off /
    auto_with_reset) or builds a frame that decodes to that mode and that `until` -/
theorem setSystemMode_roundtrip (ctl : List Char) (k : String × String) (hk : k ∈ Gen.sysModeMap) (untl : Option DateTime)
    (hv : ∀ d, untl = some d → d.valid = true) (f : Frame) (h : setSystemMode ctl (.str k.1.toList) untl = .ok f) :
    f.verb = vW ∧ f.code = "2E04".toList ∧ (untl.isSome = true → noUntilModes.contains k.1 = false) ∧
    p2E04 f = .ok (.dict ([("system_mode", Json.str k.2.toList)] ++
      (if noUntilModes.contains k.1 then [] else [("until", untilJson untl)]))) := by
  unfold setSystemMode at h
  simp only [normMode_key _ _ _ _ _ (sysModeMap_row k hk).2.1, ok_bind] at h
  obtain ⟨hguard, h⟩ := of_guard_ok h
  have hf := C03.fromAttrsDest_fields vW ctl "2E04".toList _ f rfl rfl h
  refine ⟨hf.1, hf.2.1, fun hu => ?_, p2E04_of_parts f k hk untl hv hf.2.2.1⟩
  -- the builder's guard lists the three modes in another order than the decoder
  rw [← noUntil_eq]
  simp only [hu, Bool.true_and, Bool.not_eq_true, Bool.or_eq_false_iff] at hguard ⊢
  exact ⟨⟨hguard.1.1, hguard.2⟩, hguard.1.2⟩

def activeHex : Option Bool → List Char
  | none => "FF".toList
  | some true => "01".toList
  | some false => "00".toList

def activeJson : Option Bool → Dict
  | none => []
  | some b => [("active", .bool b)]

def untilDict : Option DateTime → Dict
  | none => []
  | some d => [("until", isoJson { d with second := 0 })]

theorem zonModeMap_row : ∀ k ∈ Gen.zonModeMap, k.1.toList.length = 2 ∧
    inS (Gen.zonModeMap.map (·.1)) k.1.toList = true ∧ lookupS Gen.zonModeMap k.1.toList = some k.2 := by decide +kernel

theorem activeHex_length (act : Option Bool) : (activeHex act).length = 2 := by
  rcases act with _ | _ | _ <;> rfl

/-- `parser_1f41` on `<idx><active><mode>FFFFFF[<until>]` -/
theorem p1F41_of_parts (f : Frame) (i : List Char) (hi : i.length = 2) (act : Option Bool) (k : String × String)
    (hk : k ∈ Gen.zonModeMap) (untl : Option DateTime) (hv : ∀ d, untl = some d → d.valid = true)
    (hu : untl.isSome = decide (k.1 = Gen.zonModeTEMPORARY))
    (hp : f.payload = i ++ activeHex act ++ k.1.toList ++ "FFFFFF".toList ++ untilHex untl) :
    p1F41 f = .ok (.dict ([("mode", Json.str k.2.toList)] ++ activeJson act ++
      untilDict untl)) := by
  obtain ⟨hk2, hin, hzm⟩ := zonModeMap_row k hk
  have ha2 := activeHex_length act
  have hlen : f.payload.length = 12 + (untilHex untl).length := by
    rw [hp]; simp only [List.length_append, hi, ha2, hk2]; rfl
  simp only [List.append_assoc] at hp
  have c2 := (field_first hp hi).2
  obtain ⟨e_act, c4⟩ := field_at (b := 4) c2 (by rw [ha2])
  obtain ⟨e_m, c6⟩ := field_at (b := 6) c4 (by rw [hk2])
  obtain ⟨e_f, c12⟩ := field_at (b := 12) c6 (x := "FFFFFF".toList) rfl
  unfold p1F41
  simp only [e_m, e_f, e_act, hin, zonMode, hzm, Option.map_some, Frame.blen, hlen, ok_bind, pure_eq, pyAssert_true]
  cases untl with
  | none =>
    have hkt : ¬ k.1.toList = Gen.zonModeTEMPORARY.toList := fun e => of_decide_eq_false hu.symm (String.toList_inj.1 e)
    simp only [hkt, untilHex, if_false]
    rcases act with _ | _ | _ <;> simp [hkt, activeHex, activeJson, s, untilDict, ok_bind, pyAssert_true]
  | some d =>
    have hkt : k.1.toList = Gen.zonModeTEMPORARY.toList := congrArg _ (of_decide_eq_true hu.symm)
    have hU := C04.hexFromDtm_nosecs_length (some d) false hv
    have e_u := field_last (b := 24) c12 (by rw [untilHex, hU]; decide)
    simp only [hkt, untilHex, hU, e_u, jDtm_roundtrip_nosecs d (hv d rfl), if_true]
    rcases act with _ | _ | _ <;> simp [activeHex, activeJson, s, untilDict, ok_bind, pyAssert_true]

/-- `temporary_override` takes no `duration`; `countdown_override` needs a `duration` and takes no `until`;
    the other modes take neither -/
theorem normaliseUntil_domain (m : List Char) (untl : Option DateTime) (duration : Option Int) (h : normaliseUntil m untl duration = .ok ()) :
    (m = Gen.zonModeTEMPORARY.toList → duration = none) ∧
    (m = Gen.zonModeCOUNTDOWN.toList → duration.isSome = true ∧ untl = none) ∧
    (m ≠ Gen.zonModeTEMPORARY.toList → m ≠ Gen.zonModeCOUNTDOWN.toList → untl = none ∧ duration = none) := by
  unfold normaliseUntil at h
  have hne : Gen.zonModeTEMPORARY.toList ≠ Gen.zonModeCOUNTDOWN.toList := by decide
  rcases of_ite_eq h with ⟨ht, h⟩ | ⟨ht, h⟩
  · -- the mode is `temporary_override`: the guard passed, so there is no `duration`
    have hdur : duration = none := Option.not_isSome_iff_eq_none.1 (of_guard_ok h).1
    exact ⟨fun _ => hdur, fun hc => absurd (ht ▸ hc) hne, fun hn => absurd ht hn⟩
  rcases of_ite_eq h with ⟨hc, h⟩ | ⟨hc, h⟩
  · -- the mode is `countdown_override`: two guards passed, so there is a `duration` and no `until`
    obtain ⟨hd, h⟩ := of_guard_ok h
    have hdur : duration.isSome = true := by cases duration <;> simp at hd ⊢
    have hunt : untl = none := Option.not_isSome_iff_eq_none.1 (of_guard_ok h).1
    exact ⟨fun e => absurd e ht, fun _ => ⟨hdur, hunt⟩, fun _ hn => absurd hc hn⟩
  · -- any other mode: the one guard says there is neither
    have hg := (of_guard_ok h).1
    refine ⟨fun e => absurd e ht, fun e => absurd e hc, fun _ _ => ?_⟩
    cases duration <;> cases untl <;> simp at hg ⊢

/-- `temporary_override` needs an `until` and takes no `duration`: anything else is refused (W|1F41) -/
theorem setDhwMode_temporary_domain (ctl : List Char) (i : IdxArg) (mode : ModeArg) (active : Option Bool)
    (untl : Option DateTime) (duration : Option Int) (f : Frame)
    (hm : normaliseMode mode active.isSome untl duration = .ok Gen.zonModeTEMPORARY.toList)
    (h : setDhwMode ctl i mode active untl duration = .ok f) : untl.isSome = true ∧ duration = none := by
  unfold setDhwMode at h
  obtain ⟨ii, -, h⟩ := bind_ok.1 h
  obtain ⟨m, hm', h⟩ := bind_ok.1 h
  cases hm.symm.trans hm'
  obtain ⟨u, hnu, h⟩ := bind_ok.1 h
  have hg := (of_guard_ok h).1
  refine ⟨?_, (normaliseUntil_domain _ _ _ hnu).1 rfl⟩
  cases untl with
  | some _ => rfl
  | none => exact absurd (by rw [decide_eq_true rfl]; rfl) hg

/-- a mode must be named or implied: with neither a mode nor a target the call is refused; so is
    `until` together with a (non-zero) `duration`; and every mode but follow_schedule needs its target -/
theorem normaliseMode_refuses (mode : ModeArg) (hasTarget : Bool) (untl : Option DateTime) (duration : Option Int) (m : List Char)
    (h : normaliseMode mode hasTarget untl duration = .ok m) :
    (mode = .none → hasTarget = true) ∧ (untl.isSome = true → duration = none ∨ duration = some 0) ∧
    (m ≠ Gen.zonModeFOLLOW.toList → hasTarget = true) := by
  unfold normaliseMode at h
  obtain ⟨h1, h⟩ := of_guard_ok h
  obtain ⟨h2, h⟩ := of_guard_ok h
  dsimp only at h
  split at h
  · cases h
  obtain ⟨h3, h⟩ := of_guard_ok h
  cases Except.ok.inj h
  refine ⟨?_, ?_, ?_⟩
  · intro hm
    cases hasTarget with
    | true => rfl
    | false => exact absurd (by rw [hm]; rfl) h1
  · intro hu
    cases duration with
    | none => exact Or.inl rfl
    | some x =>
      by_cases hx : x = 0
      · exact Or.inr (congrArg some hx)
      · simp [hu, durTruthy, hx] at h2
  · intro hne
    cases hasTarget with
    | true => rfl
    | false => simp [hne] at h3

/-- a mode given by its key is the mode that is encoded -/
theorem normaliseMode_str_key (k : String × String) (hk : k ∈ Gen.zonModeMap) (hasT : Bool) (untl : Option DateTime)
    (du : Option Int) (m : List Char) (h : normaliseMode (.str k.1.toList) hasT untl du = .ok m) : m = k.1.toList := by
  unfold normaliseMode at h
  have h := (of_guard_ok (of_guard_ok h).2).2
  dsimp only at h
  rw [normMode_key _ _ _ _ _ (zonModeMap_row k hk).2.1] at h
  exact (Except.ok.inj (of_guard_ok h).2).symm

/-- **W|1F41 round trip**: for every mode of the table but countdown (whose frames the decoder refuses: a
    recorded finding), given by its key, with no duration: `set_dhw_mode` either refuses, or builds a frame that
    decodes to that mode, to the `active` flag (dropped for follow_schedule) and - for temporary_override - to
    the `until` given, to the minute -/
theorem setDhwMode_roundtrip (ctl : List Char) (idx : IdxArg) (k : String × String) (hk : k ∈ Gen.zonModeMap)
    (act : Option Bool) (untl : Option DateTime) (hv : ∀ d, untl = some d → d.valid = true) (f : Frame)
    (h : setDhwMode ctl idx (.str k.1.toList) act untl none = .ok f) :
    f.verb = vW ∧ f.code = "1F41".toList ∧ k.1 ≠ Gen.zonModeCOUNTDOWN ∧
    p1F41 f = .ok (.dict ([("mode", Json.str k.2.toList)] ++
      activeJson (if k.1 = Gen.zonModeFOLLOW then none else act) ++
      untilDict untl)) := by
  unfold setDhwMode at h
  obtain ⟨i, hi, h⟩ := bind_ok.1 h
  obtain ⟨m, hm, h⟩ := bind_ok.1 h
  cases normaliseMode_str_key k hk _ _ _ m hm
  obtain ⟨u, hnu, h⟩ := bind_ok.1 h
  -- (the guard stands before a `let`, so its `throw` is bound to the rest of the block: still an error)
  obtain ⟨htmp, h⟩ := of_guard_ok h
  have hdom := normaliseUntil_domain k.1.toList untl none hnu
  have hnc : k.1 ≠ Gen.zonModeCOUNTDOWN := fun e => nomatch (hdom.2.1 (congrArg _ e)).1
  have hu : untl.isSome = decide (k.1 = Gen.zonModeTEMPORARY) := by
    by_cases ht : k.1 = Gen.zonModeTEMPORARY
    · rw [decide_eq_true ht]
      cases untl with
      | some _ => rfl
      | none => exact absurd (by rw [ht, decide_eq_true rfl]; rfl) htmp
    · rw [(hdom.2.2 (mt String.toList_inj.1 ht) (mt String.toList_inj.1 hnc)).1, decide_eq_false ht]; rfl
  simp only [String.toList_inj] at h
  generalize (if k.1 = Gen.zonModeFOLLOW then none else act) = a at h ⊢
  have hf := C03.fromAttrsDest_fields vW ctl "1F41".toList _ f rfl rfl h
  refine ⟨hf.1, hf.2.1, hnc, p1F41_of_parts f i (C03.checkIdx_length idx i hi) a k hk untl hv hu ?_⟩
  -- the builder spells the `active` byte as `activeHex` does
  rw [hf.2.2.1]
  rcases a with _ | _ | _ <;> rfl

end Ramses.C03Time
