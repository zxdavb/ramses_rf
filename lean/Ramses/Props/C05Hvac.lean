/-
  C05 (continuation) — value ranges of the third batch of payload parsers (Model/Parsers.lean,
  `parserC`): "all ratios are within 0..1 and temperatures within the physical wire range", for every
  payload text (unbounded strings: whatever the helpers accept).
-/
import Ramses.Props.C05
namespace Ramses.C05H

/-- `hex_to_percent` (either resolution): `None` or a ratio in 0..1 -/
theorem hexToPercent_unit (v : List Char) (hi : Bool) (x : Dy) (h : hexToPercent v hi = .ok (some x)) :
    x.eqv ⟨1, 0⟩ = true ∨ x.ltFrac 1 1 = true := by
  unfold hexToPercent at h
  obtain ⟨-, h⟩ | ⟨-, h⟩ := of_ite_eq (of_guard_ok h).2
  · cases h
  split at h
  · cases h
  obtain ⟨-, h⟩ | ⟨-, h⟩ := of_ite_eq h
  · cases h
  obtain ⟨hr, h⟩ | ⟨-, h⟩ := of_ite_eq h
  · cases h; exact hr.symm
  · cases h

/-- `_faulted_sensor`: one entry, `<name>_fault`, a text -/
theorem faultedSensor_shape (name : String) (v : List Char) (d : Dict) (h : faultedSensor name v = .ok d) :
    ∃ t, d = [(name ++ "_fault", .str t)] := by
  obtain ⟨n, -, h⟩ := bind_ok.1 h
  exact ⟨_, (Except.ok.inj h).symm⟩

/-- an HVAC temperature (`_parse_hvac_temp`: outdoor, supply, exhaust, indoor) is unknown, a sensor
    fault, or `k/100` with −273 < k/100 ≤ 327.67 -/
theorem hvacTemp_range (name : String) (v : List Char) (d : Dict) (h : hvacTemp name v = .ok d) :
    d = [(name, .null)] ∨ (∃ t, d = [(name ++ "_fault", .str t)]) ∨
    ∃ k : Int, -27300 < k ∧ k ≤ 32767 ∧ d = [(name, jsonOfTemp (tempOfCenti k))] := by
  unfold hvacTemp at h
  obtain ⟨hlen, h⟩ := of_check_ok h
  obtain ⟨-, h⟩ | ⟨-, h⟩ := of_ite_eq h
  · exact Or.inl (Except.ok.inj h).symm
  obtain ⟨hi, -, h⟩ := bind_ok.1 h
  obtain ⟨-, h⟩ | ⟨-, h⟩ := of_ite_eq h
  · exact Or.inr (Or.inl (faultedSensor_shape name v d h))
  obtain ⟨n, hn, h⟩ := bind_ok.1 h
  have hn16 := ofHex_lt v n (pyInt16_ok.1 hn)
  rw [hlen] at hn16
  obtain ⟨-, h⟩ | ⟨hk, h⟩ := of_ite_eq h
  · exact Or.inr (Or.inl (faultedSensor_shape name v d h))
  · exact Or.inr (Or.inr ⟨_, by omega, by omega, (Except.ok.inj h).symm⟩)

/-- a CO2 level is unknown, a sensor fault, or an integer below 32768 ppm -/
theorem co2Level_range (v : List Char) (d : Dict) (h : co2Level v = .ok d) :
    d = [("co2_level", .null)] ∨ (∃ t, d = [("co2_level" ++ "_fault", .str t)]) ∨
    ∃ n : Nat, n < 0x8000 ∧ d = [("co2_level", jNat n)] := by
  unfold co2Level at h
  obtain ⟨-, h⟩ | ⟨-, h⟩ := of_ite_eq (of_guard_ok h).2
  · exact Or.inl (Except.ok.inj h).symm
  obtain ⟨n, -, h⟩ := bind_ok.1 h
  obtain ⟨hi, -, h⟩ := bind_ok.1 h
  obtain ⟨-, h⟩ | ⟨hc, h⟩ := of_ite_eq h
  · exact Or.inr (Or.inl (faultedSensor_shape "co2_level" v d h))
  · refine Or.inr (Or.inr ⟨n, ?_, (Except.ok.inj h).symm⟩)
    simp only [Bool.or_eq_true, decide_eq_true_eq, not_or, Nat.not_le] at hc
    exact hc.2

theorem dictSet_mem_other (d : Dict) (k : String) (j : Json) (e : String × Json) (he : e ∈ d) (hk : e.1 ≠ k) :
    e ∈ dictSet d k j := by
  unfold dictSet
  split
  · exact List.mem_map.mpr ⟨e, he, by simp [hk]⟩
  · exact List.mem_append_left _ he

theorem optField_mem {e : String × Json} {r r' : Dict} {key : String} {v : List Char} (he : e ∈ r) (hk : e.1 ≠ key)
    (h : (if v ≠ [] then do let t ← jTemp v; pure (dictSet r key t) else pure r) = Except.ok r') : e ∈ r' := by
  obtain ⟨-, h⟩ | ⟨-, h⟩ := of_ite_eq h
  · obtain ⟨t, -, h⟩ := bind_ok.1 h
    cases h; exact dictSet_mem_other _ _ _ _ he hk
  · cases h; exact he

/-- a relative humidity (`_parse_hvac_humidity`) is unknown, a sensor fault, or a ratio in 0..1
    (next to the optional temperature / dew point) -/
theorem hvacHumidity_ratio (name : String) (value temp dew : List Char) (d : Dict)
    (hn1 : name ≠ "temperature") (hn2 : name ≠ "dewpoint_temp")
    (h : hvacHumidity name value temp dew = .ok d) :
    d = [(name, .null)] ∨ (∃ t, d = [(name ++ "_fault", .str t)]) ∨
    ∃ x : Dy, x.leFrac 1 1 = true ∧ (name, Json.num false x) ∈ d := by
  unfold hvacHumidity at h
  obtain ⟨-, h⟩ | ⟨-, h⟩ := of_ite_eq (of_guard_ok (of_guard_ok (of_guard_ok h).2).2).2
  · exact Or.inl (Except.ok.inj h).symm
  obtain ⟨n, -, h⟩ := bind_ok.1 h
  obtain ⟨-, h⟩ | ⟨-, h⟩ := of_ite_eq h
  · exact Or.inr (Or.inl (faultedSensor_shape name value d h))
  obtain ⟨_, hn, h⟩ := bind_ok.1 h
  refine Or.inr (Or.inr ⟨_, divInt_le_one (of_decide_eq_true (pyAssert_ok.1 hn)), ?_⟩)
  have m0 : (name, Json.num false (divInt n 100)) ∈ [(name, Json.num false (divInt n 100))] := List.mem_singleton_self _
  -- the dew-point step is a join point under both branches of the temperature step
  obtain ⟨-, h⟩ | ⟨-, h⟩ := of_ite_eq h
  · obtain ⟨t, -, h⟩ := bind_ok.1 h
    exact optField_mem (dictSet_mem_other _ _ t _ m0 hn1) hn2 h
  · exact optField_mem m0 hn2 h

/-- an air-quality level (`parse_air_quality`) is unknown, a sensor fault, or a ratio in 0..1 with its basis -/
theorem airQuality_ratio (v : List Char) (d : Dict) (h : airQuality v = .ok d) :
    d = [("air_quality", .null)] ∨ (∃ t, d = [("air_quality" ++ "_fault", .str t)]) ∨
    ∃ (x : Dy) (b : List Char), x.leFrac 1 1 = true ∧ d = [("air_quality", .num false x), ("air_quality_basis", .str b)] := by
  unfold airQuality at h
  obtain ⟨_, -, h⟩ := bind_ok.1 (of_guard_ok h).2
  obtain ⟨-, h⟩ | ⟨-, h⟩ := of_ite_eq h
  · exact Or.inl (Except.ok.inj h).symm
  obtain ⟨n, -, h⟩ := bind_ok.1 h
  obtain ⟨-, h⟩ | ⟨-, h⟩ := of_ite_eq h
  · exact Or.inr (Or.inl (faultedSensor_shape "air_quality" v d h))
  obtain ⟨_, hn, h⟩ := bind_ok.1 h
  obtain ⟨_, -, h⟩ := bind_ok.1 h
  exact Or.inr (Or.inr ⟨_, _, divInt_le_one (of_decide_eq_true (pyAssert_ok.1 hn)), (Except.ok.inj h).symm⟩)

/-- the parsers of the third batch are these helpers on the payload's fields (definitional) -/
theorem parserC_1290 (f : Frame) (h : f.code = s "1290") : parserC f = some ((hvacTemp "outdoor_temp" (f.payload.drop 2)).map .dict) := by
  unfold parserC
  simp [h, s]

/-- non-vacuity: real frames of the third batch decode through the whole `decode` (schema index merge included) -/
example :
    (match decode (frameFields " I --- 13:237335 --:------ 13:237335 3EF0 003 00C8FF".toList) with
     | .ok (.obj d) => (match d.lookup "modulation_level", d.lookup "_flags_2" with
        | some (.num false v), some (.str t) => decide (v = divInt 200 200 ∧ t = "FF".toList)
        | _, _ => false)
     | _ => false) = true := by decide +kernel

example :
    (match decode (frameFields "RP --- 10:067219 18:006402 --:------ 3EF0 006 0010000AFFFF".toList) with
     | .ok (.obj d) => (match d.lookup "modulation_level", d.lookup "flame_on", d.lookup "ch_active", d.lookup "dhw_active" with
        | some (.num false v), some (.bool fl), some (.bool ch), some (.bool dhw) => decide (v = divInt 16 100 ∧ fl = true ∧ ch = true ∧ dhw = false)
        | _, _, _, _ => false)
     | _ => false) = true := by decide +kernel

example :
    (match decode (frameFields " I --- 32:155617 --:------ 32:155617 1298 003 0001F4".toList) with
     | .ok (.obj d) => (match d.lookup "co2_level" with | some (.int n) => decide (n = 500) | _ => false)
     | _ => false) = true := by decide +kernel

example :   -- a sensor fault is reported as such, not as a number
    (match hvacTemp "outdoor_temp" "8100".toList with
     | .ok [(k, .str t)] => decide (k = "outdoor_temp_fault" ∧ t = "open_circuit".toList)
     | _ => false) = true := by decide +kernel

end Ramses.C05H
