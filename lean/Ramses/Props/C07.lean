/-
  C07 — every send completes in bounded time with the right packet or a protocol error.
  Model: Model/Qos.lean (macro-step abstraction, see C08).
-/
import Ramses.Proofs.QosInv
namespace Ramses.C07
open Ramses.Qos

/-- **never another command's packet**: whatever the run, a caller that is handed an echo was
    handed it because an echo *of its own command* arrived, and likewise for a reply; every other
    outcome is a failure of the protocol-error family (`Out` has no other constructor) -/
theorem outcome_belongs (fails : List (Nat × Nat)) (evs : List (Nat × Ev)) (id : Nat) (o : Out) (t : Nat)
    (h : (id, o, t) ∈ (run (init fails) evs).outcomes) :
    o = .failed ∨ (o = .echo ∧ ∃ t', (t', Ev.echo id) ∈ evs) ∨ (o = .reply ∧ ∃ t', (t', Ev.reply id) ∈ evs) := by
  rcases run_outcome_mem (init fails) evs (id, o, t) h with h0 | hfrom
  · cases h0  -- the log starts empty
  · exact hfrom

theorem pickCaller_some (l : List QCmd) (acc : Option (Nat × Option Nat)) (h : acc ≠ none ∨ l ≠ []) :
    l.foldl pickCaller acc ≠ none := by
  induction l generalizing acc with
  | nil => exact h.elim id (absurd rfl)
  | cons x xs ih => exact ih _ (.inl (by fun_cases pickCaller acc x <;> nofun))

theorem dueCallers_nil {s : S} {t : Nat} (h : nextDue s t = none) : dueCallers s t = [] := by
  have hf : nextDue s t = none → firstCaller s t = none := by
    -- leaves 1-3: the timer is due and something is returned; 4, 5: the answer is `firstCaller`'s
    fun_cases nextDue s t with
    | case1 | case2 | case3 => exact nofun
    | case4 | case5 => exact id
  cases hl : dueCallers s t with
  | nil => rfl
  | cons x xs => exact absurd (hf h) (by unfold firstCaller; rw [hl]; exact pickCaller_some _ none (.inr nofun))

/-- **bounded**: once time has been advanced to `t` and nothing is left due, every caller whose
    own timeout (capped at 20 s, measured from its call) lies at or before `t` has been answered -/
theorem caught_up_answered (s : S) (t : Nat) (h : nextDue s t = none) (c : QCmd)
    (hc : c ∈ s.que ∨ s.cur = some c) (hd : c.deadline ≤ t) : s.outcomes.any (·.1 = c.id) = true := by
  have hmem : c ∈ s.que ++ s.cur.toList := List.mem_append.2 (hc.imp_right fun hc => by rw [hc]; exact List.mem_singleton_self _)
  -- `c` is not among the due callers (there are none), so the filter turned it down: it is answered
  have hno : c ∉ dueCallers s t := dueCallers_nil h ▸ List.not_mem_nil
  cases ha : s.outcomes.any (·.1 = c.id) with
  | true => rfl
  | false => exact absurd (List.mem_filter.2 ⟨hmem, by simp [ha, hd]⟩) hno

/-- a call made while disconnected, or into a full buffer, is answered at once (with an error) -/
theorem refused_at_once (s : S) (c : QCmd) (h : s.st = .inactive ∨ s.que.length ≥ maxBuffer) :
    (c.id, Out.failed, s.now) ∈ (apply s (.call c)).outcomes := by
  have e : apply s (.call c) = answer { s with called := s.called ++ [c] } c.id .failed := by
    rw [apply]
    rcases h with h | h
    · rw [if_pos h]
    · rw [if_pos h, ite_self]
  rw [e]; exact List.mem_append_right _ (List.mem_singleton_self _)

/-- non-vacuity: prompt echo and reply; reply before echo; everything lost -/
example :
    (run (init []) [(0, .call ⟨0, 0, 0, 3, true, true, 20000000⟩), (20000, .echo 0), (100000, .reply 0)]).outcomes
      = [(0, .reply, 100000)] ∧
    (run (init []) [(0, .call ⟨0, 0, 0, 3, false, true, 20000000⟩), (10000, .reply 0)]).outcomes = [(0, .reply, 10000)] ∧
    (run (init []) [(0, .call ⟨0, 0, 0, 3, false, true, 20000000⟩), (20000, .echo 0)]).outcomes = [(0, .echo, 20000)] ∧
    (advance 64 (run (init []) [(0, .call ⟨0, 0, 0, 3, false, true, 1000000⟩)]) 2000000).outcomes = [(0, .failed, 1000000)] := by
  decide +kernel

end Ramses.C07
