/-
  C19 — the fault-log view tracks the controller's log and never shows an entry twice.

  Model: Model/FaultLog.lean.  Two statements of the property are FALSE of the current code
  (recorded findings, witnessed below); what is proved is
   * unconditionally: no phantom entries, and the view never raises (every mapped stamp is held);
   * `…_partial`: while the view is *consistent* with the controller's log it is newest-first and
     duplicate-free, and replies / null replies / announcements (with the top known) keep it
     consistent — i.e. the property holds on histories without lost announcements whose top
     entry has been read.

  The proofs go through three layers, each used through its lemmas and not unfolded from above:
  `fmSet` / `fmUpdate` (members, keys), `insertIntoMap` (= `fmUpdate []` of the list `parts`: `mem_insert`,
  `mem_keys_insert`, `nodup_insert`, `mem_parts_*`), `processMsg` (`processMsg_map`).
-/
import Ramses.Model.FaultLog
import Ramses.Proofs.Fold
namespace Ramses.C19

def keys (m : FMap) : List Nat := m.map (·.1)

theorem mem_keys {m : FMap} {k : Nat} : k ∈ keys m ↔ ∃ v, (k, v) ∈ m := by
  simp [keys]

theorem keys_fmSet (m : FMap) (k v : Nat) :
    keys (fmSet m k v) = if k ∈ keys m then keys m else keys m ++ [k] := by
  have hany : m.any (·.1 = k) = true ↔ k ∈ keys m := by simp [keys]
  unfold fmSet
  by_cases h : k ∈ keys m
  · rw [if_pos (hany.2 h), if_pos h]
    simp only [keys, List.map_map]
    exact List.map_congr_left fun x _ => by simp only [Function.comp]; split <;> simp [*]
  · rw [if_neg (mt hany.1 h), if_neg h]; simp [keys]

theorem mem_keys_fmSet {m : FMap} {k v j : Nat} : j ∈ keys (fmSet m k v) ↔ j = k ∨ j ∈ keys m := by
  rw [keys_fmSet]
  split
  · next hk =>
    -- `k` is a key already, so `j = k` adds nothing
    constructor
    · exact Or.inr
    · rintro (rfl | h)
      · exact hk
      · exact h
  · simp [or_comm]

theorem mem_keys_fmUpdate {m o : FMap} {j : Nat} : j ∈ keys (fmUpdate m o) ↔ j ∈ keys m ∨ j ∈ keys o := by
  unfold fmUpdate
  induction o generalizing m with
  | nil => simp [keys]
  | cons kv o ih => rw [List.foldl_cons, ih, mem_keys_fmSet]; simp [keys, or_comm, or_left_comm, or_assoc]

theorem nodup_fmSet {m : FMap} {k v : Nat} (h : (keys m).Nodup) : (keys (fmSet m k v)).Nodup := by
  rw [keys_fmSet]
  split
  · exact h
  · next hk =>
    -- `k` is new: it is put behind keys that all differ from it
    refine List.nodup_append.2 ⟨h, List.pairwise_singleton _ k, fun a ha b hb hab => ?_⟩
    rw [List.mem_singleton.1 hb] at hab
    exact hk (hab ▸ ha)

theorem nodup_fmUpdate {m o : FMap} (h : (keys m).Nodup) : (keys (fmUpdate m o)).Nodup :=
  foldl_inv (P := fun d => (keys d).Nodup) o m (fun _ _ _ => nodup_fmSet) h

theorem mem_fmSet {m : FMap} {k v : Nat} {x : Nat × Nat} (h : x ∈ fmSet m k v) : x = (k, v) ∨ x ∈ m := by
  unfold fmSet at h
  split at h
  · obtain ⟨y, hy, hxy⟩ := List.mem_map.1 h
    split at hxy
    · exact Or.inl hxy.symm
    · exact Or.inr (hxy ▸ hy)
  · exact (List.mem_append.1 h).symm.imp_left List.mem_singleton.1

theorem mem_fmUpdate {m o : FMap} {x : Nat × Nat} (h : x ∈ fmUpdate m o) : x ∈ m ∨ x ∈ o := by
  -- along the fold over `o`, every entry of the dict so far is from `m` or from `o`
  refine foldl_inv (P := fun d => ∀ x ∈ d, x ∈ m ∨ x ∈ o) o m (fun d kv hkv hd x hx => ?_)
    (fun _ => Or.inl) x h
  rcases mem_fmSet hx with rfl | hx'
  · exact Or.inr hkv  -- the entry just set, `kv` of `o`
  · exact hd x hx'  -- an entry that was there before

theorem get?_mem {m : FMap} {k v : Nat} (h : m.get? k = some v) : (k, v) ∈ m := by
  unfold FMap.get? at h
  obtain ⟨y, hf, rfl⟩ := Option.map_eq_some_iff.1 h
  have : y.1 = k := by simpa using List.find?_some hf
  exact this ▸ List.mem_of_find?_eq_some hf

theorem get?_of_key {m : FMap} {k : Nat} (h : k ∈ keys m) : ∃ v, m.get? k = some v := by
  obtain ⟨v, hv⟩ := mem_keys.1 h
  unfold FMap.get?
  cases hf : m.find? (fun kv => decide (kv.1 = k)) with
  | none => simpa using List.find?_eq_none.1 hf _ hv
  | some y => exact ⟨y.2, rfl⟩

/-- `minList` is core's `List.min?` -/
theorem minList_spec {l : List Nat} (hne : l ≠ []) : minList l ∈ l ∧ ∀ x ∈ l, minList l ≤ x := by
  cases l with
  | nil => exact absurd rfl hne
  | cons a l => exact List.min?_eq_some_iff.1 List.min?_cons'

def older (m : FMap) (d : Nat) : List Nat := (m.filter (fun kv => kv.2 < d)).map (·.1)

theorem mem_older {m : FMap} {d k : Nat} : k ∈ older m d ↔ ∃ v, (k, v) ∈ m ∧ v < d := by
  simp [older]

/-- how far `insertIntoMap` moves the entries at or after the reported one -/
def shift (m : FMap) (idx d : Nat) : Nat :=
  if minList (older m d) > idx then 0 else if minList (older m d) = idx then 1 else idx + 1

/-- every older entry lies after the reported position: nothing moves -/
theorem shift_eq_zero {m : FMap} {idx d : Nat} (hne : older m d ≠ []) (h : ∀ k ∈ older m d, idx < k) :
    shift m idx d = 0 := by
  unfold shift; rw [if_pos (h _ (minList_spec hne).1)]

/-- the reported position held the newest of the older entries: they move down by one -/
theorem shift_eq_one {m : FMap} {idx d : Nat} (hmem : idx ∈ older m d) (h : ∀ k ∈ older m d, idx ≤ k) :
    shift m idx d = 1 := by
  have hs := minList_spec (List.ne_nil_of_mem hmem)
  have : minList (older m d) = idx := Nat.le_antisymm (hs.2 _ hmem) (h _ hs.1)
  unfold shift; rw [this, if_neg (Nat.lt_irrefl _), if_pos rfl]

/-- what `insertIntoMap` writes, in order, into an empty dict: for a null reply the entries before
    `idx`; for a reply `(idx, d)` the newer entries before `idx`, the reported entry, and (only when
    something older was known) the entries at or after it, moved by `shift` -/
def parts (m : FMap) (idx : Nat) : Option Nat → FMap
  | none => m.filter (fun kv => kv.1 < idx)
  | some d => m.filter (fun kv => kv.1 < idx && kv.2 > d) ++ (idx, d) ::
      if older m d = [] then [] else
        (m.filter (fun kv => (kv.1 ≥ idx || kv.2 < d) && kv.1 + shift m idx d ≤ maxLogIdx)).map
          (fun kv => (kv.1 + shift m idx d, kv.2))

theorem insertIntoMap_eq (m : FMap) (idx : Nat) (dtm : Option Nat) :
    insertIntoMap m idx dtm = fmUpdate [] (parts m idx dtm) := by
  cases dtm with
  | none => rfl
  | some d =>
    simp only [parts, fmUpdate, List.foldl_append, List.foldl_cons]
    show (if older m d = [] then _ else _) = _
    split <;> rfl

theorem mem_parts_none {m : FMap} {idx : Nat} {x : Nat × Nat} : x ∈ parts m idx none ↔ x ∈ m ∧ x.1 < idx := by
  simp [parts]

theorem mem_parts_some {m : FMap} {idx d : Nat} {x : Nat × Nat} : x ∈ parts m idx (some d) ↔
    (x ∈ m ∧ x.1 < idx ∧ d < x.2) ∨ x = (idx, d) ∨
      (older m d ≠ [] ∧ ∃ y ∈ m, (idx ≤ y.1 ∨ y.2 < d) ∧ y.1 + shift m idx d ≤ maxLogIdx ∧
        (y.1 + shift m idx d, y.2) = x) := by
  by_cases h : older m d = [] <;> simp [parts, h, and_assoc]

theorem mem_insert {m : FMap} {idx : Nat} {dtm : Option Nat} {x : Nat × Nat} (h : x ∈ insertIntoMap m idx dtm) :
    x ∈ parts m idx dtm :=
  (mem_fmUpdate (insertIntoMap_eq .. ▸ h)).resolve_left List.not_mem_nil

theorem mem_keys_insert {m : FMap} {idx k : Nat} {dtm : Option Nat} (h : k ∈ keys (parts m idx dtm)) :
    k ∈ keys (insertIntoMap m idx dtm) :=
  insertIntoMap_eq .. ▸ mem_keys_fmUpdate.2 (Or.inr h)

theorem nodup_insert (m : FMap) (idx : Nat) (dtm : Option Nat) : (keys (insertIntoMap m idx dtm)).Nodup :=
  insertIntoMap_eq .. ▸ nodup_fmUpdate List.nodup_nil

/-- every entry of the rebuilt map is the reported entry itself or comes (possibly shifted) from
    the old map: its stamp was known before -/
theorem insert_values {m : FMap} {idx : Nat} {dtm : Option Nat} {x : Nat × Nat}
    (h : x ∈ insertIntoMap m idx dtm) : (dtm = some x.2) ∨ (∃ y ∈ m, y.2 = x.2) := by
  cases dtm with
  | none => exact Or.inr ⟨x, (mem_parts_none.1 (mem_insert h)).1, rfl⟩
  | some d =>
    rcases mem_parts_some.1 (mem_insert h) with ⟨hx, _⟩ | rfl | ⟨_, y, hy, _, _, rfl⟩
    · exact Or.inr ⟨x, hx, rfl⟩
    · exact Or.inl rfl
    · exact Or.inr ⟨y, hy, rfl⟩

theorem processMsg_map (s : FLog) (msg : FMsg) :
    ((processMsg s msg).map = s.map ∧ ∃ d, msg.dtm = some d ∧ s.map.get? msg.idx = some d) ∨
      (processMsg s msg).map = insertIntoMap s.map msg.idx msg.dtm := by
  unfold processMsg
  split
  · rename_i h; exact Or.inr (by rw [h])
  · rename_i d h
    split
    · exact Or.inl ⟨rfl, d, h, ‹_›⟩
    · exact Or.inr (by rw [h])

theorem processMsg_stamps {s : FLog} {msg : FMsg} {x : Nat × Nat} (hx : x ∈ (processMsg s msg).map) :
    msg.dtm = some x.2 ∨ ∃ y ∈ s.map, y.2 = x.2 := by
  rcases processMsg_map s msg with ⟨h, _⟩ | h <;> rw [h] at hx
  · exact Or.inr ⟨x, hx, rfl⟩
  · exact insert_values hx

/-- `Held s`: every stamp in the map is a key of `_log` — the `faultlog` property cannot raise -/
def Held (s : FLog) : Prop := ∀ x ∈ s.map, x.2 ∈ s.log

theorem held_step (s : FLog) (msg : FMsg) (h : Held s) : Held (processMsg s msg) := by
  unfold processMsg
  split
  · intro x hx
    obtain ⟨y, hy, hyx⟩ := (insert_values (show x ∈ insertIntoMap s.map msg.idx none from hx)).resolve_left (nomatch ·)
    exact List.mem_filter.2 ⟨hyx ▸ h y hy, List.any_eq_true.2 ⟨x, hx, by simp⟩⟩
  · rename_i d _
    split
    · exact h
    · intro x hx
      refine List.mem_filter.2 ⟨?_, List.any_eq_true.2 ⟨x, hx, by simp⟩⟩
      rcases insert_values (show x ∈ insertIntoMap s.map msg.idx (some d) from hx) with h1 | ⟨y, hy, hyx⟩
      · cases h1; split
        · rename_i hc; simpa using hc
        · simp
      · have := hyx ▸ h y hy
        split
        · exact this
        · exact List.mem_append_left _ this

/-- **reading the view never raises**, after any history -/
theorem view_total (msgs : List FMsg) : viewTotal (processAll FLog.empty msgs) = true := by
  unfold viewTotal
  simp only [List.all_eq_true, List.contains_eq_mem, decide_eq_true_eq]
  exact foldl_inv (P := Held) msgs _ (fun s m _ => held_step s m) (fun x hx => nomatch hx)

/-- **no phantoms**: every stamp in the view was carried by some processed message -/
theorem no_phantoms (msgs : List FMsg) :
    ∀ x ∈ (processAll FLog.empty msgs).map, ∃ msg ∈ msgs, msg.dtm = some x.2 := by
  refine foldl_inv (P := fun s : FLog => ∀ x ∈ s.map, ∃ msg ∈ msgs, msg.dtm = some x.2) msgs _
    (fun s m hm ih x hx => ?_) (fun _ hx => nomatch hx)
  rcases processMsg_stamps hx with e | ⟨y, hy, e⟩
  · exact ⟨m, hm, e⟩  -- the stamp came with the message just processed
  · exact e ▸ ih y hy  -- or it was in the map before

/-- the view is a partial copy of the controller's log `L` (newest first): position k holds L[k] -/
def Consistent (L : List Nat) (m : FMap) : Prop := ∀ x ∈ m, L[x.1]? = some x.2

/-- the controller's log is strictly newest-first (time stamps are unique) -/
def Desc (L : List Nat) : Prop := L.Pairwise (· > ·)

theorem desc_lt {L : List Nat} (hd : Desc L) {i j a b : Nat} (hi : L[i]? = some a) (hj : L[j]? = some b)
    (hij : i < j) : a > b := by
  obtain ⟨hjl, rfl⟩ := List.getElem?_eq_some_iff.1 hj
  obtain ⟨hil, rfl⟩ := List.getElem?_eq_some_iff.1 hi
  exact (List.pairwise_iff_getElem.1 hd) i j hil hjl hij

/-- in a descending log the position of an entry is determined by its stamp, monotonically -/
theorem desc_pos {L : List Nat} (hd : Desc L) {i j a b : Nat} (hi : L[i]? = some a) (hj : L[j]? = some b)
    (hab : b < a) : i < j := by
  rcases Nat.lt_trichotomy i j with h | h | h
  · exact h
  · subst h; rw [hi] at hj; cases hj; omega
  · have := desc_lt hd hj hi h; omega

/-- **newest-first, no entry at two positions** — for every view consistent with the log -/
theorem ordered_of_consistent_partial (L : List Nat) (m : FMap) (hc : Consistent L m) (hd : Desc L)
    (x y : Nat × Nat) (hx : x ∈ m) (hy : y ∈ m) :
    (x.1 < y.1 → x.2 > y.2) ∧ (x.2 = y.2 → x.1 = y.1) := by
  refine ⟨desc_lt hd (hc x hx) (hc y hy), fun h => ?_⟩
  rcases Nat.lt_trichotomy x.1 y.1 with h1 | h1 | h1
  · have := desc_lt hd (hc x hx) (hc y hy) h1; omega
  · exact h1
  · have := desc_lt hd (hc y hy) (hc x hx) h1; omega

/-- a **reply** carrying the entry the controller really has at position i keeps the view
    consistent (whatever subset of positions was known before) -/
theorem consistent_reply_partial (L : List Nat) (m : FMap) (i d : Nat) (hc : Consistent L m)
    (hd : Desc L) (hi : L[i]? = some d) : Consistent L (insertIntoMap m i (some d)) := by
  intro x hx
  rcases mem_parts_some.1 (mem_insert hx) with ⟨hx, _⟩ | rfl | ⟨hne, y, hy, _, _, rfl⟩
  · exact hc x hx
  · exact hi
  · -- what is older than `d` lies after `i` in the log, so nothing moves
    rw [shift_eq_zero hne fun k hk => by
      obtain ⟨v, hv, hlt⟩ := mem_older.1 hk
      exact desc_pos hd hi (hc _ hv) hlt]
    exact hc y hy

/-- a **null reply** keeps the view consistent -/
theorem consistent_null_partial (L : List Nat) (m : FMap) (i : Nat) (hc : Consistent L m) :
    Consistent L (insertIntoMap m i none) :=
  fun x hx => hc x (mem_parts_none.1 (mem_insert hx)).1

/-- an **announcement** of a new entry `d` (newer than everything) pushes the known entries down
    by one — provided the top of the log was known (or nothing was): the view stays consistent
    with the controller's new log `d :: L` -/
theorem consistent_announce_partial (L : List Nat) (m : FMap) (d : Nat) (hc : Consistent L m)
    (hd : Desc (d :: L)) (htop : m = [] ∨ ∃ x ∈ m, x.1 = 0) :
    Consistent (d :: L) (insertIntoMap m 0 (some d)) := by
  intro x hx
  rcases mem_parts_some.1 (mem_insert hx) with ⟨_, h0, _⟩ | rfl | ⟨hne, y, hy, _, _, rfl⟩
  · cases h0
  · rfl
  · -- everything known is older than `d`, the top included: all of it moves down by one
    obtain ⟨z, hz, hz0⟩ := htop.resolve_left (by rintro rfl; exact hne rfl)
    have hzd : z.2 < d := desc_lt hd (i := 0) (j := z.1 + 1) rfl (by simpa using hc z hz) (by omega)
    rw [shift_eq_one (mem_older.2 ⟨z.2, hz0 ▸ hz, hzd⟩) (fun _ _ => Nat.zero_le _)]
    simpa using hc y hy

/-- non-vacuity: the consistent case is inhabited (three entries, all positions known) -/
example : Consistent [30, 20, 10] [(0, 30), (1, 20), (2, 10)] ∧ Desc [30, 20, 10] ∧
    insertIntoMap [(0, 30), (1, 20), (2, 10)] 0 (some 40) = [(0, 40), (1, 30), (2, 20), (3, 10)] := by
  refine ⟨?_, by unfold Desc; decide +kernel, by decide +kernel⟩
  intro x hx
  simp only [List.mem_cons, List.not_mem_nil, or_false] at hx
  rcases hx with h | h | h <;> rw [h] <;> rfl

theorem get_of_key {L : List Nat} {m : FMap} {k : Nat} (hc : Consistent L m) (h : k ∈ keys m) :
    m.get? k = L[k]? := by
  obtain ⟨v, hv⟩ := get?_of_key h
  rw [hv, hc _ (get?_mem hv)]

theorem ctlReply_map (L : List Nat) (s : FLog) (i : Nat) :
    ((processMsg s (ctlReply L i)).map = s.map ∧ ∃ d, L[i]? = some d ∧ s.map.get? i = some d) ∨
      (processMsg s (ctlReply L i)).map = insertIntoMap s.map i L[i]? :=
  processMsg_map s (ctlReply L i)

/-- the view is consistent with `L` and holds every position of `L` from `lo` up to `i` -/
def Read (L : List Nat) (lo i : Nat) (s : FLog) : Prop :=
  Consistent L s.map ∧ ∀ k, lo ≤ k → k < i → k < L.length → k ∈ keys s.map

/-- the controller's answer for position `i` keeps a consistent view consistent, keeps every lower
    position that was known (their entries are newer), and puts `i` into the view if the controller has it -/
theorem read_step {L : List Nat} (hd : Desc L) (lo i : Nat) (s : FLog) (h : Read L lo i s) :
    Read L lo (i + 1) (processMsg s (ctlReply L i)) := by
  obtain ⟨hc, hk⟩ := h
  unfold Read
  rcases ctlReply_map L s i with ⟨e, d, _, hg⟩ | e <;> rw [e]
  · refine ⟨hc, fun k h1 h2 h3 => ?_⟩
    rcases Nat.lt_or_ge k i with h | h
    · exact hk k h1 h h3
    · obtain rfl : k = i := by omega
      exact mem_keys.2 ⟨d, get?_mem hg⟩
  · have kept : ∀ k, lo ≤ k → k < i → k < L.length → ∃ v, (k, v) ∈ s.map ∧ L[k]? = some v :=
      fun k h1 h2 h3 => (mem_keys.1 (hk k h1 h2 h3)).imp fun v hv => ⟨hv, hc _ hv⟩
    cases hi : L[i]? with
    | none =>
      refine ⟨consistent_null_partial L s.map i hc, fun k h1 _ h3 => ?_⟩
      have hki : k < i := by have := List.getElem?_eq_none_iff.1 hi; omega
      obtain ⟨v, hv, _⟩ := kept k h1 hki h3
      exact mem_keys_insert (mem_keys.2 ⟨v, mem_parts_none.2 ⟨hv, hki⟩⟩)
    | some d =>
      refine ⟨consistent_reply_partial L s.map i d hc hd hi, fun k h1 h2 h3 => ?_⟩
      rcases Nat.lt_or_ge k i with h | h
      · obtain ⟨v, hv, hL⟩ := kept k h1 h h3
        exact mem_keys_insert (mem_keys.2 ⟨v, mem_parts_some.2 (Or.inl ⟨hv, h, desc_lt hd hL hi h⟩)⟩)
      · obtain rfl : k = i := by omega
        exact mem_keys_insert (mem_keys.2 ⟨d, mem_parts_some.2 (Or.inr (Or.inl rfl))⟩)

theorem nodup_processMsg {s : FLog} (msg : FMsg) (h : (keys s.map).Nodup) : (keys (processMsg s msg).map).Nodup := by
  rcases processMsg_map s msg with ⟨e, _⟩ | e <;> rw [e]
  · exact h
  · exact nodup_insert _ _ _

/-- the read-through loop asks for positions `i, i+1, …` (`n` requests at most) and ends at the first
    empty one: what every answer carries one position further, and what holds for all further positions
    once the log has ended, holds at `i + n` afterwards -/
theorem readLoop_inv {L : List Nat} {P : Nat → FLog → Prop}
    (step : ∀ i s, P i s → P (i + 1) (processMsg s (ctlReply L i)))
    (past : ∀ i j s, L.length ≤ i → P (i + 1) s → P j s) :
    ∀ (n i : Nat) (s : FLog), P i s → P (i + n) (readLoop L n i s)
  | 0, _, _, h => h
  | n + 1, i, s, h => by
    unfold readLoop
    split
    · exact past i _ _ (List.getElem?_eq_none_iff.1 ‹_›) (step i s h)
    · rw [← Nat.add_assoc, Nat.add_right_comm]
      exact readLoop_inv step past n (i + 1) _ (step i s h)

theorem getFaultlog_read {L : List Nat} (hd : Desc L) {s : FLog} (hc : Consistent L s.map) (start limit : Nat) :
    Read L start (min (start + limit) logDepth) (getFaultlog L s start limit) := by
  -- each answer carries `Read L start` one position further (`read_step`); once the log has ended the
  -- bound may be anything, since `Read` speaks of positions of `L` only
  have past : ∀ i j s, L.length ≤ i → Read L start (i + 1) s → Read L start j s := by
    intro i j s hi h
    refine ⟨h.1, fun k hlo _ hkL => h.2 k hlo ?_ hkL⟩
    omega
  -- before the first request there is no position from `start` up to `start`
  have init : Read L start start s := ⟨hc, fun k hlo hlt _ => absurd hlt (Nat.not_lt.2 hlo)⟩
  have h := readLoop_inv (read_step hd start) past (min (start + limit) logDepth - start) start s init
  -- the loop ends at `start + (bound - start)`, which is the bound or beyond
  exact ⟨h.1, fun k hlo hlt hkL => h.2 k hlo (by omega) hkL⟩

/-- **after a complete read-through the view equals the controller's log over the range read**: for
    every controller log `L` (newest first, of any depth), every view consistent with it (the empty
    view of a fresh start in particular), every `start` and `limit`: each position
    `start ≤ k < min (start + limit) 64` that the controller has reads back the controller's entry -/
theorem readthrough_exact_partial (L : List Nat) (s : FLog) (start limit : Nat) (hd : Desc L) (hc : Consistent L s.map)
    (k : Nat) (h1 : start ≤ k) (h2 : k < min (start + limit) logDepth) (h3 : k < L.length) :
    (getFaultlog L s start limit).map.get? k = L[k]? ∧ Consistent L (getFaultlog L s start limit).map := by
  have := getFaultlog_read hd hc start limit
  exact ⟨get_of_key this.1 (this.2 k h1 h2 h3), this.1⟩

theorem length_of_keys {m : FMap} {n : Nat} (hn : (keys m).Nodup) (h : ∀ k, k ∈ keys m ↔ k < n) : m.length = n := by
  simpa [keys] using ((List.perm_ext_iff_of_nodup hn List.nodup_range).2 fun k => by rw [h, List.mem_range]).length_eq

/-- a read-through from the top that covers the controller's whole log leaves a view with exactly
    one entry for each of the controller's -/
theorem readthrough_length (L : List Nat) (s : FLog) (limit : Nat) (hd : Desc L) (hc : Consistent L s.map)
    (hn : (keys s.map).Nodup) (hL : L.length ≤ min limit logDepth) :
    (getFaultlog L s 0 limit).map.length = L.length := by
  obtain ⟨hcs, hks⟩ := getFaultlog_read hd hc 0 limit
  -- the keys stay distinct through the loop, and they are exactly the positions of `L`
  have hnd : (keys (getFaultlog L s 0 limit).map).Nodup :=
    readLoop_inv (P := fun _ s => (keys s.map).Nodup) (fun _ _ => nodup_processMsg _)
      (fun _ _ _ _ => id) _ 0 s hn
  refine length_of_keys hnd fun k => ⟨fun hk => ?_, fun hk => ?_⟩
  · obtain ⟨v, hv⟩ := mem_keys.1 hk  -- a key holds `L[k]`, so `k` is a position of `L`
    exact (List.getElem?_eq_some_iff.1 (hcs _ hv)).1
  · exact hks k (Nat.zero_le _) (by omega) hk  -- a position of `L` is below the bound, so it was read

/-- a fresh view is consistent with any log -/
theorem empty_consistent (L : List Nat) : Consistent L FLog.empty.map := by
  intro x hx; cases hx

theorem desc_countdown (n : Nat) : Desc ((List.range n).reverse.map (· + 1)) :=
  List.pairwise_map.2 (List.pairwise_reverse.2 (List.pairwise_lt_range.imp Nat.succ_lt_succ))

/-- non-vacuity, and the last position: a full 64-deep log read through from the top with limit 64
    gives all 64 positions, 0x3F included -/
example : (getFaultlog ((List.range 64).reverse.map (· + 1)) FLog.empty 0 64).map.get? 63 = some 1 ∧
    (getFaultlog ((List.range 64).reverse.map (· + 1)) FLog.empty 0 64).map.length = 64 :=
  ⟨(readthrough_exact_partial _ FLog.empty 0 64 (desc_countdown 64) (empty_consistent _) 63 (Nat.zero_le _)
      (by decide) (by simp)).1,
    (readthrough_length _ FLog.empty 64 (desc_countdown 64) (empty_consistent _) List.nodup_nil (by simp [logDepth])).trans
      (by simp)⟩

/-! ### the two recorded findings, as theorems about the model -/

/-- after two lost announcements, replies for idx 2 and 3 leave one entry at two positions -/
theorem duplicate_witness :
    (processAll FLog.empty [⟨0, some 1⟩, ⟨0, some 2⟩, ⟨0, some 3⟩, ⟨2, some 3⟩, ⟨3, some 2⟩]).map
      = [(2, 3), (3, 2), (4, 2), (5, 1)] := by decide +kernel

/-- an announcement while the top of the log is unknown does not push the known entry down -/
theorem announce_top_unknown_witness :
    (processAll FLog.empty [⟨2, some 11⟩, ⟨0, some 20⟩]).map = [(0, 20), (2, 11)] := by decide +kernel

end Ramses.C19
