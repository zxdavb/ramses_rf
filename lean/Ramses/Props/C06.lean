/-
  C06 — request and reply correlate: echo/reply headers match, distinct contexts differ.

  Model: Model/Header.lean (pkt_header, _ctx, _pkt_idx, _has_array, _has_ctl over the generated
  tables) and Model/Match.lean (the three predicates of WantEcho / WantRply).
-/
import Ramses.Model.Match
import Ramses.Proofs.PyLemmas
namespace Ramses.C06

theorem isCode_other {f : HCore} {c c' : String} (h : isCode f c = true) (hne : c.toList ≠ c'.toList) :
    isCode f c' = false := by
  unfold isCode at h ⊢
  rw [of_decide_eq_true h]
  exact decide_eq_false hne

/-- the text of a header: `code|verb|device[|ctx]` -/
def hdrText (code verb dev : List Char) (ctx : Option (List Char)) : List Char :=
  match ctx with
  | none => joinBar [code, verb, dev]
  | some c => joinBar [code, verb, dev] ++ '|' :: c

/-- **headers are injective**: two headers are the same text only if code, verb, device and
    context all agree — so packets that differ in any one of them are never confused -/
theorem hdrText_inj (c v d c' v' d' : List Char) (x x' : Option (List Char))
    (hc : c.length = 4) (hv : v.length = 2) (hd : d.length = 9)
    (hc' : c'.length = 4) (hv' : v'.length = 2) (hd' : d'.length = 9)
    (h : hdrText c v d x = hdrText c' v' d' x') : c = c' ∧ v = v' ∧ d = d' ∧ x = x' := by
  -- both texts are `c ++ | ++ (v ++ | ++ (d ++ rest))` with fields of equal width: cut field by field
  have e : ∀ (c v d : List Char) (x : Option (List Char)), hdrText c v d x =
      c ++ ('|' :: (v ++ ('|' :: (d ++ (match x with | none => [] | some t => '|' :: t))))) := fun c v d x => by
    cases x <;> simp [hdrText, joinBar, joinSep]
  rw [e, e] at h
  obtain ⟨rfl, h1⟩ := List.append_inj h (hc.trans hc'.symm)
  obtain ⟨rfl, h2⟩ := List.append_inj (List.cons.inj h1).2 (hv.trans hv'.symm)
  obtain ⟨rfl, h3⟩ := List.append_inj (List.cons.inj h2).2 (hd.trans hd'.symm)
  refine ⟨rfl, rfl, rfl, ?_⟩
  cases x <;> cases x' <;> first | rfl | exact congrArg some (List.cons.inj h3).2 | cases h3

/-- which device id a (non-1FC9) transmit header names -/
def hdrDev (f : Frame) : List Char :=
  if f.verb = vI || f.verb = vRP || f.src = f.dst then f.src else f.dst

/-- the context part of a header, from a `_ctx` value -/
def ctxPart : Py Idx → Py (Option (List Char))
  | .ok (.str c) => .ok (some c)
  | .ok _ => .ok none
  | .error .assertionError => .ok none
  | .error e => .error e

/-- shape of every transmit header (codes other than 1FC9) -/
theorem tx_form (f : Frame) (h : isCode f.core "1FC9" = false) :
    txHeader f = (ctxPart (ctxFirst f.core)).map (hdrText f.code f.verb (hdrDev f)) := by
  unfold txHeader pktHeader pktHeaderWith hdrDev
  simp only [h, Bool.false_eq_true, if_false]
  generalize ctxFirst f.core = cx, (f.verb = vI || f.verb = vRP || f.src = f.dst) = b
  -- what is left on both sides is the case analysis on the context value `cx` that `ctxPart` makes,
  -- under either answer `b` of the test that picks the device: the same text in every case
  rcases cx with e | i
  · cases b <;> cases e <;> rfl  -- an exception: swallowed if it is the `AssertionError`, else passed on
  · cases b <;> cases i <;> rfl  -- an index: it is part of the header if it is a string

/-- shape of every expected-reply header (codes other than 1FC9); `cmd.rx_header` evaluates
    `tx_header` first and raises what that raises -/
theorem rx_form (f : Frame) (h : isCode f.core "1FC9" = false) (h1 : f.verb ≠ vI) (h2 : f.verb ≠ vRP)
    (h3 : f.src ≠ f.dst) :
    rxHeader f = txHeader f >>= fun _ => (ctxPart (ctxLater f.core)).map
      (fun c => some (hdrText f.code (if f.verb = vRQ then vRP else vI) f.dst c)) := by
  unfold rxHeader
  cases txHeader f with
  | error _ => rfl
  | ok _ =>
    unfold pktHeaderWith
    simp only [h, h1, h2, h3, decide_false, Bool.or_self, Bool.false_eq_true, if_false, if_true]
    generalize ctxLater f.core = cx
    rcases cx with e | i
    · cases e <;> rfl  -- an exception: swallowed if it is the `AssertionError`, else passed on
    · cases i <;> rfl  -- an index: it is part of the header if it is a string

/-- **soundness of reply matching**: if a packet's header equals the expected-reply header of a
    request (codes other than 1FC9), then the packet has the request's code, the answering
    verb, comes from the addressed device, and carries the same context -/
theorem reply_header_sound (q r : Frame) (hq : isCode q.core "1FC9" = false) (hr : isCode r.core "1FC9" = false)
    (hq1 : q.verb ≠ vI) (hq2 : q.verb ≠ vRP) (hq3 : q.src ≠ q.dst)
    (lq : q.code.length = 4 ∧ q.dst.length = 9) (lr : r.code.length = 4 ∧ r.verb.length = 2 ∧ (hdrDev r).length = 9)
    (h : List Char) (hrx : rxHeader q = .ok (some h)) (htx : txHeader r = .ok h) :
    r.code = q.code ∧ r.verb = (if q.verb = vRQ then vRP else vI) ∧ hdrDev r = q.dst ∧
      ctxPart (ctxFirst r.core) = ctxPart (ctxLater q.core) := by
  rw [rx_form q hq hq1 hq2 hq3] at hrx
  rw [tx_form r hr] at htx
  obtain ⟨-, -, hrx⟩ := bind_ok.1 hrx
  obtain ⟨xq, hcq, hrx⟩ := map_ok.1 hrx
  obtain ⟨xr, hcr, htx⟩ := map_ok.1 htx
  have hv : (if q.verb = vRQ then vRP else vI).length = 2 := by split <;> rfl
  obtain ⟨a, b, c, d⟩ := hdrText_inj r.code r.verb (hdrDev r) q.code _ q.dst xr xq
    lr.1 lr.2.1 lr.2.2 lq.1 hv lq.2 (htx.trans (Option.some.inj hrx).symm)
  exact ⟨a, b, c, by rw [hcr, hcq, d]⟩

/-- **completeness of reply matching**: the answering verb, from the addressed device, same code
    and same context ⇒ the packet's header *is* the expected-reply header -/
theorem reply_header_complete (q r : Frame) (hq : isCode q.core "1FC9" = false) (hr : isCode r.core "1FC9" = false)
    (hq1 : q.verb ≠ vI) (hq2 : q.verb ≠ vRP) (hq3 : q.src ≠ q.dst)
    (t : List Char) (ht : txHeader q = .ok t)
    (hcode : r.code = q.code) (hverb : r.verb = (if q.verb = vRQ then vRP else vI))
    (hdev : r.src = q.dst) (c : Option (List Char))
    (hcr : ctxPart (ctxFirst r.core) = .ok c) (hcq : ctxPart (ctxLater q.core) = .ok c) :
    ∃ h, rxHeader q = .ok (some h) ∧ txHeader r = .ok h := by
  refine ⟨hdrText q.code (if q.verb = vRQ then vRP else vI) q.dst c, ?_, ?_⟩
  · rw [rx_form q hq hq1 hq2 hq3, ht, hcq]; rfl
  · have hv : (r.verb = vI || r.verb = vRP) = true := by rw [hverb]; split <;> decide
    have : hdrDev r = q.dst := by unfold hdrDev; rw [hv, Bool.true_or, if_pos rfl, hdev]
    rw [tx_form r hr, hcr, this, hcode, hverb]; rfl

/-- **the echo is recognised whatever real id the gateway substitutes**: a transmit header
    depends on the source only through its type and through "source = destination"; so for a
    request (RQ/W to another device) any two frames with the same verb, code, payload,
    destination and source *type* have the same header -/
theorem echo_header_invariant (q e : Frame) (hcore : e.core = q.core)
    (hv : q.verb = vRQ ∨ q.verb = vW) (hne : q.src ≠ q.dst) :
    txHeader e = txHeader q := by
  have hverb : e.verb = q.verb := congrArg HCore.verb hcore
  have hcode : e.code = q.code := congrArg HCore.code hcore
  have hdst : e.dst = q.dst := congrArg HCore.dst hcore
  have hsame : decide (e.src = e.dst) = decide (q.src = q.dst) := congrArg HCore.same hcore
  have hne' : e.src ≠ q.dst := fun h => hne (of_decide_eq_true (hsame ▸ decide_eq_true (hdst ▸ h)))
  have nI : q.verb ≠ vI := by rcases hv with h | h <;> rw [h] <;> decide
  have nP : q.verb ≠ vRP := by rcases hv with h | h <;> rw [h] <;> decide
  unfold txHeader pktHeader pktHeaderWith
  rw [hcore]
  simp only [hverb, hcode, hdst, nI, nP, hne, hne', decide_false, Bool.or_self, Bool.false_eq_true, if_false,
    not_false_eq_true, if_true]

theorem srcDst_pair (f : Frame) (h0 : f.a0.take 2 ≠ "--".toList) (h1 : f.a1.take 2 ≠ "--".toList) (h2 : f.a2 = nonId) :
    f.srcDst = (f.a0, f.a1) := by
  unfold Frame.srcDst
  rw [h2, List.filter_cons, if_pos (decide_eq_true h0), List.filter_cons, if_pos (decide_eq_true h1)]

/-- the gateway substitution preserves the core view: replacing the 18:000730 placeholder in the
    first address field by another 18: id (frame shape src, dst, --) -/
theorem subst_core (q : Frame) (g : List Char)
    (h0 : q.a0 = hgiId) (h2 : q.a2 = nonId) (h1 : q.a1.take 2 ≠ "--".toList)
    (hne : q.a1 ≠ hgiId) (hg : g.take 2 = "18".toList) (hgne : q.a1 ≠ g) :
    ({ q with a0 := g } : Frame).core = q.core ∧ q.src ≠ q.dst := by
  have sd : q.srcDst = (hgiId, q.a1) := h0 ▸ srcDst_pair q (by rw [h0]; decide) h1 h2
  have sd' : ({ q with a0 := g } : Frame).srcDst = (g, q.a1) := srcDst_pair _ (by rw [hg]; decide) h1 h2
  refine ⟨?_, ?_⟩
  · unfold Frame.core Frame.srcType Frame.src Frame.dst
    rw [sd, sd']
    simp only [hg, HCore.mk.injEq, true_and]
    refine ⟨by decide, ?_⟩
    have a : decide (g = q.a1) = false := decide_eq_false (fun h => hgne h.symm)
    have b : decide (hgiId = q.a1) = false := decide_eq_false (fun h => hne h.symm)
    rw [a, b]
  · unfold Frame.src Frame.dst
    rw [sd]
    exact fun h => hne h.symm

/-- the known finding, as a theorem about the model: RQ|1FC9 never has an expected-reply header -/
theorem rq_1fc9_no_reply_witness :
    (parseFrame "RQ --- 18:000730 13:237335 --:------ 1FC9 001 00".toList).map rxHeader
      = .ok (.ok none) := by decide +kernel

/-- non-vacuity: a real request, its echo and its reply -/
example :
    let q := frameFields "RQ --- 18:000730 01:145038 --:------ 000A 002 0800".toList
    let e := frameFields "RQ --- 18:006402 01:145038 --:------ 000A 002 0800".toList
    let r := frameFields "RP --- 01:145038 18:006402 --:------ 000A 006 081001F40DAC".toList
    txHeader q = .ok "000A|RQ|01:145038|08".toList ∧ rxHeader q = .ok (some "000A|RP|01:145038|08".toList) ∧
    isEchoOf "18:006402".toList q e = .ok true ∧ isReplyOf "18:006402".toList q e r = .ok true ∧
    isEarlyReply "18:006402".toList q r = .ok true := by decide +kernel

end Ramses.C06
