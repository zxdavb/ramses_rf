/-
  C09 (continuation) — "once traffic stops the sender is idle (or inactive if disconnected)": the
  *if* is an *iff*.  For every finite episode (any events, any times, any QoS settings) the sender
  is Inactive exactly when the last connection event was a loss - timers that fire late, callers
  that give up, echoes and replies never bring an Inactive sender back, and never make a connected
  one Inactive.  (Model: Model/Qos.lean; invariant package: Proofs/QosInv.lean.)
-/
import Ramses.Proofs.QosInv
namespace Ramses.C09C
open Ramses.Qos

/-- is the transport connected after these events (given whether it was before)? -/
def connAfter : Bool → List (Nat × Ev) → Bool
  | c, [] => c
  | _, (_, .connLost) :: r => connAfter false r
  | _, (_, .connMade) :: r => connAfter true r
  | c, (_, .call _) :: r => connAfter c r
  | c, (_, .echo _) :: r => connAfter c r
  | c, (_, .reply _) :: r => connAfter c r

theorem connAfter_cons (c : Bool) (te : Nat × Ev) (r : List (Nat × Ev)) :
    connAfter c (te :: r) = connAfter (connAfter c [te]) r := by
  obtain ⟨t, e⟩ := te; cases e <;> rfl

theorem goIdle_active (fuel : Nat) (s : S) : (goIdle fuel s).st ≠ .inactive := by
  fun_induction goIdle fuel s with
  | case1 | case2 | case5 => exact nofun
  | case3 _ _ _ _ _ _ _ ih | case4 _ _ _ _ _ _ _ _ ih => exact ih

/-- `st` agrees with the connection flag `c`, and an Inactive sender has nothing in flight.  Kept by
    every move on its own: neither the rest of the invariant nor fresh ids are needed. -/
def Conn (c : Bool) (s : S) : Prop := (s.st = .inactive ↔ c = false) ∧ (s.st = .inactive → s.cur = none)

theorem Conn.same {c : Bool} {s s' : S} (h : Conn c s) (e1 : s'.st = s.st) (e2 : s'.cur = s.cur) : Conn c s' := by
  rw [Conn, e1, e2]; exact h

theorem Conn.flight {c : Bool} {s : S} (h : Conn c s) {q : QCmd} (hc : s.cur = some q) : s.st ≠ .inactive :=
  fun hi => nomatch hc.symm.trans (h.2 hi)

theorem Conn.active {c : Bool} {s s' : S} (h : Conn c s) (ha : s.st ≠ .inactive) (ha' : s'.st ≠ .inactive) : Conn c s' :=
  ⟨⟨(absurd · ha'), fun hc => absurd (h.1.2 hc) ha⟩, (absurd · ha')⟩

theorem Conn.up {s : S} (ha : s.st ≠ .inactive) : Conn true s := ⟨iff_of_false ha nofun, (absurd · ha)⟩

theorem Conn.down {s : S} (hi : s.st = .inactive) (hc : s.cur = none) : Conn false s := ⟨iff_of_true hi rfl, fun _ => hc⟩

theorem fireTimer_conn {c : Bool} (s : S) (h : Conn c s) : Conn c (fireTimer s) := by
  fun_cases fireTimer s with
  | case1 => exact h.same rfl rfl
  | case2 _ hc | case4 _ hc => exact h.active (h.flight hc) (goIdle_active _ _)
  | case3 _ hc => exact h.active (h.flight hc) nofun

theorem callerGivesUp_conn {c : Bool} (s : S) (id : Nat) (h : Conn c s) : Conn c (callerGivesUp s id) := by
  fun_cases callerGivesUp s id with
  | case1 | case3 | case4 => exact h.same rfl rfl
  | case2 _ _ hc => exact h.active (h.flight hc) (goIdle_active _ _)

theorem advance_conn {c : Bool} (fuel : Nat) (s : S) (t : Nat) (h : Conn c s) : Conn c (advance fuel s t) := by
  fun_induction advance fuel s t with
  | case1 | case2 => exact h.same rfl rfl
  | case3 _ _ _ _ _ ih => exact ih (fireTimer_conn _ (h.same rfl rfl))
  | case4 _ _ _ _ _ _ ih => exact ih (callerGivesUp_conn _ _ (h.same rfl rfl))

/-- what one event does to "Inactive": a loss makes it so, a (re)connection ends it, nothing else
    touches it (`connAfter c [(t, e)]` is `false`, `true`, and `c` for every other event) -/
theorem apply_conn {c : Bool} (s : S) (t : Nat) (e : Ev) (h : Conn c s) : Conn (connAfter c [(t, e)]) (apply s e) := by
  -- the leaves are numbered as in the legend at the head of Proofs/QosInv.lean
  fun_cases apply s e with
  | case1 | case2 | case4 | case7 | case8 | case10 | case11 => exact h.same rfl rfl
  | case3 _ hi => exact h.active hi (goIdle_active _ _)
  | case5 _ _ hc => exact h.active (h.flight hc) nofun
  | case6 _ _ hc | case9 _ _ hc => exact h.active (h.flight hc) (goIdle_active _ _)
  | case12 hi => exact .down hi (h.2 hi)
  | case13 => exact .down rfl rfl
  | case14 hc => exact .down rfl hc
  | case15 => exact .up (goIdle_active _ _)
  | case16 hi => exact .up hi

theorem run_conn (evs : List (Nat × Ev)) {c : Bool} {s : S} (h : Conn c s) : Conn (connAfter c evs) (run s evs) := by
  induction evs generalizing s c with
  | nil => exact h
  | cons te rest ih => rw [connAfter_cons]; exact ih (apply_conn _ te.1 te.2 (advance_conn 256 s te.1 h))

/-- **Inactive exactly when disconnected**, after any finite episode -/
theorem inactive_iff_disconnected (fails : List (Nat × Nat)) (evs : List (Nat × Ev)) (hf : FreshEvs (init fails) evs) :
    (run (init fails) evs).st = .inactive ↔ connAfter true evs = false :=
  (run_conn evs (s := init fails) (.up nofun)).1

/-- ... so at rest (nothing in flight) a connected sender is idle -/
theorem rests_idle_when_connected (fails : List (Nat × Nat)) (evs : List (Nat × Ev)) (hf : FreshEvs (init fails) evs)
    (hc : connAfter true evs = true) (h : (run (init fails) evs).cur = none) : (run (init fails) evs).st = .idle :=
  ((run_inv _ evs (init_inv fails) hf).idle_ok h).resolve_right fun h1 =>
    nomatch hc.symm.trans ((inactive_iff_disconnected fails evs hf).1 h1)

/-- non-vacuity: a caller's timeout that falls after a disconnect does not revive the sender -/
example :
    let evs : List (Nat × Ev) := [(0, .call ⟨0, 0, 0, 3, false, true, 1000000⟩), (999999, .connLost), (5000000, .echo 0)]
    (run (init []) evs).st = .inactive ∧ connAfter true evs = false := by decide +kernel

end Ramses.C09C
