/-
  C03 (continuation) — OpenTherm: the parity bit `get_opentherm_data` sets is the one `decode_frame`
  demands, for all 256 msg-ids; `parity` is the parity of the number of one bits.
-/
import Ramses.Model.OpenTherm
namespace Ramses.C03Ot
open Ramses.OT

/-- **all 256 msg-ids**: the request frame passes the decoder's parity and spare-bit checks -/
theorem rq_parity_ok : ∀ id : Fin 256, frameCheck ((rqPayload id.val).drop 2) = .ok () := by decide +kernel

/-- ... and it is a Read-Data request for that very id with a zero data value -/
theorem rq_fields : ∀ id : Fin 256,
    ofHex (((rqPayload id.val).drop 4).take 2) = some id.val ∧ (rqPayload id.val).drop 6 = "0000".toList ∧
    (ofHex (((rqPayload id.val).drop 2).take 2)).map (fun b => b % 128 / 16) = some 0 := by decide +kernel

/-- XOR of the `n` bits of `x` from position `i` up -/
def win (x : Nat) : Nat → Nat → Bool
  | 0, _ => false
  | n + 1, i => x.testBit i ^^ win x n (i + 1)

theorem win_add (x s t i : Nat) : win x (s + t) i = (win x s i ^^ win x t (i + s)) := by
  induction s generalizing i with
  | zero => simp [win]
  | succ s ih =>
    rw [Nat.add_right_comm, win, win, ih, Bool.xor_assoc, Nat.add_assoc, Nat.add_comm 1 s]

theorem win_lt (x t i : Nat) (h : x < 2 ^ i) : win x t i = false := by
  induction t generalizing i with
  | zero => rfl
  | succ t ih =>
    rw [win, Nat.testBit_lt_two_pow h, ih _ (by rw [Nat.pow_succ]; omega)]; rfl

theorem win_div2 (x n i : Nat) : win x n (i + 1) = win (x / 2) n i := by
  induction n generalizing i with
  | zero => rfl
  | succ n ih => rw [win, win, ih, Nat.testBit_succ]

theorem popcount_win (f x : Nat) : popcount f x % 2 = (win x f 0).toNat := by
  induction f generalizing x with
  | zero => rfl
  | succ f ih =>
    rw [popcount, win, win_div2, Nat.testBit_zero]
    split
    · next h => subst h; rw [win_lt 0 f 0 (by simp)]; rfl
    · rw [Nat.add_mod, ih]
      rcases Nat.mod_two_eq_zero_or_one x with h | h <;> cases win (x / 2) f 0 <;> simp [h]

/-- the early exit changes nothing: shifting further leaves `x` as it is -/
theorem loop_step (fuel x sh : Nat) :
    parityLoop (fuel + 1) x sh = parityLoop fuel (x ^^^ (x >>> sh)) (sh * 2) := by
  rw [parityLoop]
  split
  · next h =>
    rw [h, Nat.xor_zero]
    cases fuel with
    | zero => rfl
    | succ f => rw [parityLoop, if_pos (by rw [Nat.mul_two, Nat.shiftRight_add, h, Nat.zero_shiftRight])]
  · rfl

/-- after the rounds with shifts `1, 2, …, sh/2` bit `i` of `x` is the XOR of bits `i … i+sh-1` of `x0` -/
theorem loop_win (x0 fuel x sh : Nat) (inv : ∀ i, x.testBit i = win x0 sh i) :
    parityLoop fuel x sh = (win x0 (sh * 2 ^ fuel) 0).toNat := by
  induction fuel generalizing x sh with
  | zero => rw [parityLoop, Nat.pow_zero, Nat.mul_one, ← inv, Nat.toNat_testBit, Nat.pow_zero, Nat.div_one]
  | succ f ih =>
    rw [loop_step, ih, Nat.pow_succ, Nat.mul_assoc, Nat.mul_comm 2]
    intro i
    rw [Nat.testBit_xor, Nat.testBit_shiftRight, inv, inv, Nat.mul_two, win_add, Nat.add_comm]

theorem parity_eq_popcount (n x : Nat) (hn : n ≤ 2 ^ 64) (h : x < 2 ^ n) : parity x = popcount n x % 2 := by
  rw [popcount_win, parity, loop_win x 64 x 1 (fun i => by simp [win]), Nat.one_mul]
  obtain ⟨t, ht⟩ := Nat.exists_eq_add_of_le hn
  rw [ht, win_add, win_lt x t _ (by simpa using h), Bool.xor_false]

/-- the 12-bit instance (a test of the model's `parity`; the claims the property needs are the 256-id
    theorems above and below) -/
theorem parity_is_popcount_12 (x : Nat) (h : x < 4096) : parity x = popcount 13 x % 2 :=
  parity_eq_popcount 13 x (by decide) (by omega)

/-- flipping the parity bit of a well-formed request makes the decoder refuse it -/
theorem wrong_parity_refused : ∀ id : Fin 256,
    frameCheck ((if parity id.val = 1 then "00".toList else "80".toList) ++ fmtHex 2 id.val ++ "0000".toList) = .error .valueError := by
  decide +kernel

end Ramses.C03Ot
