/-
  C18 — schedule transfers end cleanly under faults and never return a mixed schedule.

  For every fault trace (any number of exchanges; replies from any controller version, failed sends,
  the caller's timeout striking anywhere), every cached fragment set and every prior lock state.
  The first argument of the model's operations selects the code: `getSchedule true` (release the lock in a
  `finally`) and `setSchedule false` (do not cache before the write) are /repo as repaired; the other value is
  the code before the repair, kept for the two witnesses.

  First what the fragment loop and a fetch can return at all, said once (`Ends`, `fragLoop_ends`,
  `getSchedule_cases`); from it that no lock is left behind and that no schedule is stitched from two
  versions.  Writing a schedule comes last, in the same way from `setSchedule_cases`.
-/
import Ramses.Model.SchedXfer
namespace Ramses.C18
open Ramses.Xfer

theorem decodes_all {fs : List Frag} {v : Nat} (h : decodes fs = some v) : ∀ g ∈ fs, g.ver = v := by
  cases fs with
  | nil => cases h
  | cons f rest =>
    simp only [decodes] at h
    split at h
    · rename_i hall
      cases h
      exact fun g hg => by simpa using List.all_eq_true.mp hall g hg
    · cases h

/-- re-assembly reports a schedule only for a set of the reply's own length, with the reply stored in
    it, and only as the decode of that very set -/
theorem updateSet_some {set : PSet} {f : Frag} {v : Nat} (h : (updateSet set f).2 = some v) :
    f.total = set.length ∧ (updateSet set f).1 = set.set (f.num - 1) (some f) ∧
      decodes ((set.set (f.num - 1) (some f)).filterMap id) = some v := by
  revert h
  -- of the four leaves of `updateSet` only the third reports anything
  fun_cases updateSet set f <;> intro h <;> cases h
  case case3 hlen _ _ hd => exact ⟨Decidable.not_not.1 hlen, rfl, hd⟩

/-- how the part of a fetch under the lock can end: with an error, cancelled, or with the schedule that
    `updateSet` made of one of the replies in `frags` -/
def Ends (frags : List Exch) (p : PSet × Result) : Prop :=
  p.2 = .error ∨ p.2 = .cancelled ∨
    ∃ set0 f v, Exch.reply f ∈ frags ∧ updateSet set0 f = (p.1, some v) ∧ p.2 = .sched v

theorem Ends.ne_lockTimeout {frags p} (h : Ends frags p) : p.2 ≠ .lockTimeout := by
  rcases h with h | h | ⟨_, _, _, _, _, h⟩ <;> rw [h] <;> exact Result.noConfusion

/-- a schedule comes out of one reply's `updateSet`: every fragment held is of its version, and so is
    that reply if it is well-formed -/
theorem Ends.sched {frags p v} (h : Ends frags p) (hv : p.2 = .sched v) :
    (∀ g ∈ p.1.filterMap id, g.ver = v) ∧ ∃ f, Exch.reply f ∈ frags ∧ (1 ≤ f.num ∧ f.num ≤ f.total → f.ver = v) := by
  rcases h with e | e | ⟨set0, f, w, hf, hu, e⟩
  -- an error and a cancellation are no schedule
  · rw [e] at hv; cases hv
  · rw [e] at hv; cases hv
  -- `p` is what `updateSet set0 f` answered for the reply `f`, and the schedule it reported is `v`
  obtain rfl : w = v := Result.sched.inj (e.symm.trans hv)
  obtain ⟨hlen, h1, h2⟩ := updateSet_some (congrArg Prod.snd hu)
  -- so the set is `set0` with `f` stored, and its fragments decode to `v`
  have hp1 : p.1 = set0.set (f.num - 1) (some f) := (congrArg Prod.fst hu).symm.trans h1
  refine ⟨by rw [hp1]; exact decodes_all h2, f, hf, fun hwf => ?_⟩
  -- the set has f.total slots (else updateSet would have restarted it), so f was stored and decoded
  refine decodes_all h2 f (List.mem_filterMap.2 ⟨some f, List.mem_iff_getElem.2 ⟨f.num - 1, ?_, ?_⟩, rfl⟩)
  · rw [List.length_set]; omega
  · exact List.getElem_set_self _

theorem fragLoop_ends (frags : List Exch) (set : PSet) : Ends frags (fragLoop set frags) := by
  -- leaves: 1 no exchange left, 2 a failed one, 3 cancelled, 4 the reply completes a schedule, 5 it does not yet
  fun_induction fragLoop set frags with
  | case1 | case3 => exact .inr (.inl rfl)
  | case2 => exact .inl rfl
  | case4 set f rest set' v hu => exact .inr (.inr ⟨set, f, v, List.mem_cons_self, hu, rfl⟩)
  | case5 set f rest set' hu ih =>
    exact ih.imp_right (Or.imp_right fun ⟨s0, g, v, hg, h⟩ => ⟨s0, g, v, List.mem_cons_of_mem _ hg, h⟩)

theorem obtain_refused {t t1 : Tcs} {z : String} {o : Bool} (h : obtain t z o = (t1, false)) : t1 = t := by
  revert h
  fun_cases obtain t z o
  case case3 => exact fun h => (congrArg Prod.fst h).symm
  all_goals exact fun h => nomatch h

/-- the repaired `_get_schedule`: without the lock nothing happens, the lock stays as it was; with it,
    however the fetch ends, the lock is free afterwards -/
theorem getSchedule_cases (t : Tcs) (z : String) (o : Bool) (ver : Exch) (set : PSet) (frags : List Exch) :
    getSchedule true t z o ver set frags = (t, set, .lockTimeout) ∨
      ∃ p, Ends frags p ∧ getSchedule true t z o ver set frags = (⟨none⟩, p) := by
  -- leaves: 1 the lock is refused, 2 the version exchange fails, 3 it is cancelled, 4 the fragment loop runs
  fun_cases getSchedule true t z o ver set frags
  case case1 t1 hob => exact .inl (obtain_refused hob ▸ rfl)
  case case2 => exact .inr ⟨_, .inl rfl, rfl⟩
  case case3 => exact .inr ⟨_, .inr (.inl rfl), rfl⟩
  case case4 set' r hl => exact .inr ⟨(set', r), hl ▸ fragLoop_ends frags _, by cases r <;> rfl⟩

/-- **a fetch that got the lock never keeps it**, however it ends: with a schedule, with a failed
    exchange, or cancelled by the caller's timeout at any await -/
theorem no_residue (t : Tcs) (z : String) (o : Bool) (ver : Exch) (set : PSet) (frags : List Exch)
    (h : (getSchedule true t z o ver set frags).2.2 ≠ .lockTimeout) :
    (getSchedule true t z o ver set frags).1.lockIdx = none := by
  rcases getSchedule_cases t z o ver set frags with e | ⟨p, _, e⟩
  · rw [e] at h; exact absurd rfl h  -- the lock was refused, which `h` excludes
  · rw [e]  -- the fetch ran, and handed the lock back

/-- a fetch that could not get the lock leaves it with its holder -/
theorem lock_timeout_changes_nothing (t : Tcs) (z : String) (ver : Exch) (set : PSet) (frags : List Exch)
    (h : (getSchedule true t z false ver set frags).2.2 = .lockTimeout) :
    (getSchedule true t z false ver set frags).1 = t := by
  rcases getSchedule_cases t z false ver set frags with e | ⟨p, hp, e⟩
  · rw [e]  -- the lock was refused: the state comes back untouched
  · rw [e] at h; exact absurd h hp.ne_lockTimeout  -- a fetch that ran does not end in a lock timeout

/-- **later transfers proceed**: after any fetch that held the lock has ended, another zone gets
    the lock at once -/
theorem others_proceed (t : Tcs) (z z' : String) (o : Bool) (ver : Exch) (set : PSet) (frags : List Exch)
    (h : (getSchedule true t z o ver set frags).2.2 ≠ .lockTimeout) :
    (obtain (getSchedule true t z o ver set frags).1 z' false).2 = true := by
  unfold obtain
  rw [no_residue t z o ver set frags h]

/-- the code as it stood before the repair: a failed exchange left the lock with the zone, and the
    next zone could not get it -/
theorem unfixed_leaks :
    (getSchedule false ⟨none⟩ "01" true (.reply ⟨5, 0, 0⟩) [none] [.reply ⟨5, 1, 3⟩, .fail]).1.lockIdx = some "01" ∧
    (obtain (getSchedule false ⟨none⟩ "01" true (.reply ⟨5, 0, 0⟩) [none] [.reply ⟨5, 1, 3⟩, .fail]).1 "02" false).2 = false := by
  decide +kernel

/-- **the fragment loop never returns a mixed schedule**: if it produces a schedule of version `v`,
    every fragment of the final set is of version `v`, and `v` is the version the controller held when
    it sent one of the replies of this very transfer -/
theorem fragLoop_single_version : ∀ (frags : List Exch) (set : PSet) (v : Nat),
    (fragLoop set frags).2 = .sched v →
    (∀ g ∈ (fragLoop set frags).1.filterMap id, g.ver = v) ∧ (∃ f, Exch.reply f ∈ frags ∧ True) := by
  intro frags set v h
  obtain ⟨h1, f, hf, _⟩ := (fragLoop_ends frags set).sched h
  exact ⟨h1, f, hf, trivial⟩

/-- replies are well-formed when `1 ≤ num ≤ total` -/
def WFReplies (frags : List Exch) : Prop := ∀ f, Exch.reply f ∈ frags → 1 ≤ f.num ∧ f.num ≤ f.total

/-- **the version returned is one the controller held during this very transfer**: it is the version
    of one of the replies of the fragment loop -/
theorem result_version_was_sent : ∀ (frags : List Exch) (set : PSet) (v : Nat), WFReplies frags →
    (fragLoop set frags).2 = .sched v → ∃ f, Exch.reply f ∈ frags ∧ f.ver = v := by
  intro frags set v hwf h
  obtain ⟨_, f, hf, hv⟩ := (fragLoop_ends frags set).sched h
  exact ⟨f, hf, hv (hwf f hf)⟩

/-- **the label is never newer than the data**: the change counter read before the fragments (`c0`)
    is at most the version of the schedule returned, provided the controller's counter only grows -/
theorem label_not_newer (frags : List Exch) (set : PSet) (c0 v : Nat) (hwf : WFReplies frags)
    (hmono : ∀ f, Exch.reply f ∈ frags → c0 ≤ f.ver) (h : (fragLoop set frags).2 = .sched v) : c0 ≤ v := by
  obtain ⟨f, hf, hv⟩ := result_version_was_sent frags set v hwf h
  exact hv ▸ hmono f hf

/-- a fetch returns a schedule only out of the fragment loop, hence of a single version -/
theorem getSchedule_single_version (t : Tcs) (z : String) (o : Bool) (ver : Exch) (set : PSet) (frags : List Exch) (v : Nat)
    (h : (getSchedule true t z o ver set frags).2.2 = .sched v) :
    ∀ g ∈ (getSchedule true t z o ver set frags).2.1.filterMap id, g.ver = v := by
  rcases getSchedule_cases t z o ver set frags with e | ⟨p, hp, e⟩ <;> rw [e] at h ⊢
  · cases h  -- a refused lock is no schedule
  · exact (hp.sched h).1

/-- non-vacuity: the controller's schedule changes (v5 -> v6) in the middle of a transfer; the loop
    restarts the set and returns v6 whole, the lock is free afterwards -/
example :
    getSchedule true ⟨none⟩ "01" true (.reply ⟨5, 0, 0⟩) [none]
      [.reply ⟨5, 1, 2⟩, .reply ⟨6, 2, 2⟩, .reply ⟨6, 1, 2⟩, .reply ⟨6, 2, 2⟩]
      = (⟨none⟩, [some ⟨6, 1, 2⟩, some ⟨6, 2, 2⟩], .sched 6) := by decide +kernel

theorem writeLoop_cases : ∀ frags : List WExch, (writeLoop frags = none ∧ ∀ e ∈ frags, e = .ack) ∨
    writeLoop frags = some .error ∨ writeLoop frags = some .cancelled
  | [] => Or.inl ⟨rfl, fun _ h => nomatch h⟩
  | .ack :: rest => (writeLoop_cases rest).imp_left fun ⟨h, ha⟩ =>
      ⟨h, fun e he => (List.mem_cons.1 he).elim id (ha e)⟩
  | .fail :: _ => Or.inr (Or.inl rfl)
  | .cancel :: _ => Or.inr (Or.inr rfl)

/-- the ways `set_schedule` ends: no lock and nothing touched; lock released, cache as before, an error
    or a cancellation reported; or every fragment acknowledged and the counter read back -/
theorem setSchedule_cases {t : Tcs} {z : String} {o : Bool} {cache : Cache} {new : Nat} {frags : List WExch} {ver : Exch}
    (r : Tcs × Cache × Result) (hr : setSchedule false t z o cache new frags ver = r) :
    r = ((obtain t z o).1, cache, .lockTimeout) ∨ r = (⟨none⟩, cache, .error) ∨ r = (⟨none⟩, cache, .cancelled) ∨
      ∃ f, (∀ e ∈ frags, e = .ack) ∧ ver = .reply f ∧ r = (⟨none⟩, ⟨some new, f.ver⟩, .sched f.ver) := by
  subst hr
  unfold setSchedule
  cases obtain t z o with
  | mk t1 ok =>
    cases ok with
    | false => exact Or.inl rfl
    | true =>
      rcases writeLoop_cases frags with ⟨h, ha⟩ | h | h <;> simp only [h]
      · cases ver with
        | fail => exact Or.inr (Or.inl rfl)
        | cancel => exact Or.inr (Or.inr (Or.inl rfl))
        | reply f => exact Or.inr (Or.inr (Or.inr ⟨f, ha, rfl, rfl⟩))
      · exact Or.inr (Or.inl rfl)
      · exact Or.inr (Or.inr (Or.inl rfl))

/-- a write that got the lock never keeps it, however it ends -/
theorem set_no_residue (t : Tcs) (z : String) (o : Bool) (cache : Cache) (new : Nat) (frags : List WExch) (ver : Exch)
    (h : (setSchedule false t z o cache new frags ver).2.2 ≠ .lockTimeout) :
    (setSchedule false t z o cache new frags ver).1.lockIdx = none := by
  rcases setSchedule_cases _ rfl with e | e | e | ⟨f, _, _, e⟩
  · rw [e] at h; exact absurd rfl h  -- the lock was refused, which `h` excludes
  -- failed, cancelled, succeeded: the lock has been handed back
  · rw [e]
  · rw [e]
  · rw [e]

/-- **a write that fails or is abandoned leaves nothing behind**: unless it ended with the controller's
    acknowledgement of every fragment *and* a change counter read back, the zone believes exactly what it
    believed before (schedule and label) -/
theorem set_failure_keeps_cache (t : Tcs) (z : String) (o : Bool) (cache : Cache) (new : Nat) (frags : List WExch) (ver : Exch)
    (h : ∀ v, (setSchedule false t z o cache new frags ver).2.2 ≠ .sched v) :
    (setSchedule false t z o cache new frags ver).2.1 = cache := by
  rcases setSchedule_cases _ rfl with e | e | e | ⟨f, _, _, e⟩
  -- refused, failed, cancelled: the cache comes back as it was
  · rw [e]
  · rw [e]
  · rw [e]
  · rw [e] at h; exact absurd rfl (h f.ver)  -- a success, which `h` excludes

/-- a write succeeds exactly when every fragment was acknowledged and the counter was read; the zone then
    holds the new schedule labelled with that counter -/
theorem set_success (t : Tcs) (z : String) (o : Bool) (cache : Cache) (new : Nat) (frags : List WExch) (ver : Exch) (v : Nat)
    (h : (setSchedule false t z o cache new frags ver).2.2 = .sched v) :
    (∀ e ∈ frags, e = .ack) ∧ (∃ f, ver = .reply f ∧ f.ver = v) ∧
    (setSchedule false t z o cache new frags ver).2.1 = ⟨some new, v⟩ := by
  rcases setSchedule_cases _ rfl with e | e | e | ⟨f, ha, hv, e⟩
  -- refused, failed, cancelled: no schedule
  · rw [e] at h; cases h
  · rw [e] at h; cases h
  · rw [e] at h; cases h
  · rw [e] at h ⊢
    cases h  -- `v` is the counter `f.ver` that was read back
    exact ⟨ha, ⟨f, hv, rfl⟩, rfl⟩

/-- storing the new schedule before it is written (the seeded variant) leaves, after a failed write, a
    schedule the controller never accepted under the old label -/
theorem cache_early_leaks_witness :
    (setSchedule true ⟨none⟩ "01" true ⟨some 7, 0x0105⟩ 8 [.ack, .fail] (.reply ⟨0x0105, 0, 0⟩)).2 = (⟨some 8, 0x0105⟩, .error) ∧
    (setSchedule false ⟨none⟩ "01" true ⟨some 7, 0x0105⟩ 8 [.ack, .fail] (.reply ⟨0x0105, 0, 0⟩)).2 = (⟨some 7, 0x0105⟩, .error) := by
  decide +kernel

end Ramses.C18
