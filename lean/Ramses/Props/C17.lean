/-
  C17 — schedules survive the wire format: encode / fragment / decode is the identity.

  Model: Model/Sched.lean.  zlib enters only through the hypothesis
  `∀ b, z.decompress (z.compress b) = some b`.
-/
import Ramses.Model.Sched
import Ramses.Proofs.DblLemmas
import Ramses.Proofs.Cut
import Ramses.Proofs.Basic
namespace Ramses.C17

theorem pack_unpack (idx dow tod val : Nat) (h1 : idx < 256) (h2 : dow < 256) (h3 : tod < 65536)
    (h4 : val < 65536) : structUnpack (structPack idx dow tod val) = some (idx, dow, tod, val) := by
  unfold structPack structUnpack
  simp only [Option.some.injEq, Prod.mk.injEq]
  refine ⟨by omega, by omega, by omega, by omega⟩

theorem structPack_length (idx dow tod val : Nat) : (structPack idx dow tod val).length = 20 := rfl

/-- every setpoint k/100 of the validator's range 5.00 … 35.00 packs to exactly k (no
    truncation): `round_div_mul` -/
theorem setpoint_grid (k : Nat) (h : k ≤ 3500) : packSetpoint (divInt k 100) = k :=
  round_div_mul k (by decide) (by omega)

/-- the fragments joined give back the blob, and none is longer than 82 hex characters -/
theorem cut_join {α} (k : Nat) (hk : 0 < k) (l : List α) :
    (cutEvery k l).flatten = l ∧ ∀ p ∈ cutEvery k l, p.length ≤ k := by
  induction h : l.length using Nat.strongRecOn generalizing l with
  | _ n ih =>
    by_cases hl : l = []
    · subst hl; rw [cutEvery_nil]; exact ⟨rfl, fun _ hp => nomatch hp⟩
    · have : 0 < l.length := List.length_pos_iff.2 hl
      obtain ⟨i1, i2⟩ := ih _ (by rw [← h, List.length_drop]; omega) (l.drop k) rfl
      rw [cutEvery_cons hk hl, List.flatten_cons, i1, List.take_append_drop]
      exact ⟨rfl, fun p hp => (List.mem_cons.1 hp).elim (fun e => e ▸ List.length_take_le k l) (i2 p)⟩

/-- **every fragment fits a single frame**: 7 header bytes + at most 41 fragment bytes ≤ 48 -/
theorem fragment_fits (z : Zlib) (s : Sched) (f : List Char) (hf : f ∈ toFragz z s) :
    7 + f.length / 2 ≤ 48 := by
  have := (cut_join 82 (by decide) (hexOfBytes (z.compress (records s).flatten))).2 f hf
  omega

theorem bytesOfHex_hexOfBytes (bs : List Nat) (h : ∀ b ∈ bs, b < 256) :
    bytesOfHex (hexOfBytes bs) = some bs := by
  induction bs with
  | nil => rfl
  | cons b bs ih =>
    have e : hexOfBytes (b :: bs) = hexDigit (b / 16 % 16) :: hexDigit (b % 16) :: hexOfBytes bs := by
      simp [hexOfBytes, toHexW]
    rw [e]
    unfold bytesOfHex
    have hv : ofHex [hexDigit (b / 16 % 16), hexDigit (b % 16)] = some b := by
      simpa [toHexW] using ofHex_toHexW 2 b (by decide) (h b List.mem_cons_self)
    rw [hv, ih fun x hx => h x (by simp [hx])]

def dayTuples (idx : Nat) (d : Day) : List (Nat × Nat × Nat × Nat) :=
  d.sps.map (fun sp => (idx, d.dow, sp.tod, sp.val))

def tuples (s : Sched) : List (Nat × Nat × Nat × Nat) := s.days.flatMap (dayTuples s.idx)

theorem mem_tuples {s : Sched} {t : Nat × Nat × Nat × Nat} :
    t ∈ tuples s ↔ ∃ d ∈ s.days, ∃ sp ∈ d.sps, t = (s.idx, d.dow, sp.tod, sp.val) := by
  simp only [tuples, dayTuples, List.mem_flatMap, List.mem_map, eq_comm]

theorem records_eq (s : Sched) : records s = (tuples s).map fun t => structPack t.1 t.2.1 t.2.2.1 t.2.2.2 := by
  simp only [records, tuples, dayTuples, List.map_flatMap, List.map_map, Function.comp_def]

theorem wf_out {s : Sched} (h : s.WF = true) : s.idx < 256 ∧ s.days.map (·.dow) = [0, 1, 2, 3, 4, 5, 6] ∧
    ∀ d ∈ s.days, d.sps ≠ [] ∧ ∀ sp ∈ d.sps, sp.tod < 65536 ∧ sp.val < 65536 := by
  unfold Sched.WF at h
  simp only [Bool.and_eq_true, decide_eq_true_eq, List.all_eq_true, Bool.not_eq_true'] at h
  exact ⟨h.1.1, h.1.2, fun d hd => ⟨fun e => by simpa [e] using (h.2 d hd).1, (h.2 d hd).2⟩⟩

/-- records of the current day just accumulate -/
theorem fold_same_day (idx c : Nat) (sps : List SwitchPoint) (done : List Day) (acc : List SwitchPoint) :
    (sps.map (fun sp => (idx, c, sp.tod, sp.val))).foldl regroupStep (done, c, acc) =
      (done, c, sps.reverse ++ acc) := by
  induction sps generalizing acc with
  | nil => rfl
  | cons sp sps ih =>
    simp only [List.map_cons, List.foldl_cons]
    have : regroupStep (done, c, acc) (idx, c, sp.tod, sp.val) = (done, c, ⟨sp.tod, sp.val⟩ :: acc) := by
      simp [regroupStep]
    rw [this, ih]
    simp

/-- a later, non-empty day closes the current one -/
theorem fold_new_day (idx : Nat) (d : Day) (done : List Day) (cur : Nat) (acc : List SwitchPoint)
    (hd : d.dow > cur) (hne : d.sps ≠ []) :
    (dayTuples idx d).foldl regroupStep (done, cur, acc) =
      (done ++ [⟨cur, acc.reverse⟩], d.dow, d.sps.reverse) := by
  unfold dayTuples
  cases hs : d.sps with
  | nil => exact absurd hs hne
  | cons sp sps =>
    simp only [List.map_cons, List.foldl_cons]
    have : regroupStep (done, cur, acc) (idx, d.dow, sp.tod, sp.val) =
        (done ++ [⟨cur, acc.reverse⟩], d.dow, [⟨sp.tod, sp.val⟩]) := by
      simp [regroupStep, hd]
    rw [this, fold_same_day]
    simp

theorem fold_days (idx : Nat) (ds : List Day) (done : List Day) (cur : Nat) (acc : List SwitchPoint)
    (hgt : ∀ d ∈ ds, d.dow > cur) (hpw : ds.Pairwise (fun a b => a.dow < b.dow))
    (hne : ∀ d ∈ ds, d.sps ≠ []) :
    let st := (ds.flatMap (dayTuples idx)).foldl regroupStep (done, cur, acc)
    st.1 ++ [⟨st.2.1, st.2.2.reverse⟩] = done ++ [⟨cur, acc.reverse⟩] ++ ds := by
  induction ds generalizing done cur acc with
  | nil => simp
  | cons d ds ih =>
    simp only [List.flatMap_cons, List.foldl_append]
    rw [fold_new_day idx d done cur acc (hgt d (by simp)) (hne d (by simp))]
    have hpw' := List.pairwise_cons.1 hpw
    have := ih (done ++ [⟨cur, acc.reverse⟩]) d.dow d.sps.reverse
      hpw'.1 hpw'.2 (fun x hx => hne x (by simp [hx]))
    rw [this]
    simp

theorem regroup_days (idx : Nat) (d0 : Day) (ds : List Day) (h0 : d0.dow = 0)
    (hpw : (d0 :: ds).Pairwise (fun a b => a.dow < b.dow)) (hne : ∀ d ∈ ds, d.sps ≠ []) :
    regroup ((d0 :: ds).flatMap (dayTuples idx)) = d0 :: ds := by
  obtain ⟨hgt, hpw'⟩ := List.pairwise_cons.1 hpw
  have e0 : (dayTuples idx d0).foldl regroupStep ([], 0, []) = ([], 0, d0.sps.reverse) := by
    simpa [dayTuples, h0] using fold_same_day idx 0 d0.sps [] []
  have := fold_days idx ds [] 0 d0.sps.reverse (fun d hd => h0 ▸ hgt d hd) hpw' hne
  simp only [List.reverse_reverse, List.nil_append, List.singleton_append] at this
  unfold regroup
  rw [List.flatMap_cons, List.foldl_append, e0, this, ← h0]

/-- **regrouping is exact** for seven ordered, non-empty days -/
theorem regroup_tuples (s : Sched) (h : s.WF = true) : regroup (tuples s) = s.days := by
  obtain ⟨_, hdows, hall⟩ := wf_out h
  have hpw : s.days.Pairwise (fun a b => a.dow < b.dow) :=
    List.pairwise_map.1 (show (s.days.map (·.dow)).Pairwise (· < ·) by rw [hdows]; decide)
  unfold tuples
  cases hds : s.days with
  | nil => rw [hds] at hdows; cases hdows
  | cons d0 ds =>
    rw [hds] at hdows hpw hall
    exact regroup_days s.idx d0 ds (List.cons.inj hdows).1 hpw fun d hd => (hall d (List.mem_cons_of_mem _ hd)).1

theorem unpack_records (s : Sched) (h : s.WF = true) :
    unpackAll (records s).flatten = some (tuples s) := by
  obtain ⟨hidx, hdows, hall⟩ := wf_out h
  unfold unpackAll
  rw [records_eq, cut_records 20 (by decide) _ (fun r hr => by obtain ⟨t, _, rfl⟩ := List.mem_map.1 hr; rfl), mapM_map_of_inv]
  intro t ht
  obtain ⟨d, hd, sp, hsp, rfl⟩ := mem_tuples.1 ht
  have hdow : d.dow ∈ s.days.map (·.dow) := List.mem_map_of_mem hd
  simp only [hdows, List.mem_cons, List.not_mem_nil, or_false] at hdow
  exact pack_unpack _ _ _ _ hidx (show d.dow < 256 by omega) ((hall d hd).2 sp hsp).1 ((hall d hd).2 sp hsp).2

/-- **schedule round trip**: any weekly schedule the validator accepts (seven ordered days, at
    least one switchpoint each, fields within their wire width; zone or hot water) converts to
    fragments and back to exactly the same schedule — for every zlib whose decompress inverts its
    compress -/
theorem schedule_roundtrip (z : Zlib) (hz : ∀ b, z.decompress (z.compress b) = some b)
    (hzb : ∀ b, ∀ x ∈ z.compress b, x < 256) (s : Sched) (h : s.WF = true) :
    fromFragz z (toFragz z s) = some s := by
  unfold fromFragz toFragz
  rw [(cut_join 82 (by decide) _).1]
  unfold bytesOfHexChars
  rw [bytesOfHex_hexOfBytes _ (hzb _)]
  simp only [hz]
  unfold schedOfRaw
  rw [unpack_records s h]
  have hreg := regroup_tuples s h
  -- no record at all would regroup to one empty day, not to seven
  have hne : tuples s ≠ [] := fun e => by
    have := (wf_out h).2.1
    rw [← hreg, e] at this
    cases this
  -- the last record carries the schedule's own index, as every record does
  obtain ⟨d, _, sp, _, hidx⟩ := mem_tuples.1 (List.getLast_mem hne)
  have hlast : ((tuples s).getLast?.map (·.1)).getD 0 = s.idx := by
    rw [List.getLast?_eq_some_getLast hne, hidx]; rfl
  cases ht : tuples s with
  | nil => exact absurd ht hne
  | cons t ts => simp only; rw [← ht, hlast, hreg]

/-- whatever `_update_payload_set` reports as the schedule is the decode of exactly the fragments
    it holds, with every slot filled — never something assembled from thin air -/
theorem reassembly_sound (z : Zlib) (set : PayloadSet) (p : FragMsg) (sc : Sched)
    (h : (updateSet z set p).2 = some sc) :
    p.total = set.length ∧ ((set.set (p.num - 1) (some p)).any (·.isNone)) = false ∧
    fromFragz z ((set.set (p.num - 1) (some p)).filterMap (fun x => x.map (·.frag))) = some sc := by
  revert h
  -- of the four leaves of `updateSet` (another length, a gap left, decoded, not decodable) only the third reports
  fun_cases updateSet z set p <;> intro h <;> cases h
  case case3 hlen _ hany hs' => exact ⟨Decidable.not_not.1 hlen, Bool.eq_false_iff.2 hany, hs'⟩

/-- and when the slots hold the fragments of one schedule in their places, that schedule is what
    comes out (any arrival order, any repeats: only the final slot contents matter) -/
theorem reassembly_exact (z : Zlib) (hz : ∀ b, z.decompress (z.compress b) = some b)
    (hzb : ∀ b, ∀ x ∈ z.compress b, x < 256) (s : Sched) (hw : s.WF = true)
    (set : PayloadSet) (p : FragMsg) (ht : p.total = set.length)
    (hslots : (set.set (p.num - 1) (some p)).filterMap (fun x => x.map (·.frag)) = toFragz z s)
    (hfull : ((set.set (p.num - 1) (some p)).any (·.isNone)) = false) :
    (updateSet z set p).2 = some s := by
  unfold updateSet
  rw [if_neg (by simpa using ht)]
  simp only [hfull, Bool.false_eq_true, if_false, hslots, schedule_roundtrip z hz hzb s hw]

/-- non-vacuity: a schedule of seven days is well-formed and its records regroup to itself -/
example :
    let s : Sched := ⟨1, (List.range 7).map fun d => ⟨d, [⟨390, 2150⟩, ⟨1320, 1600⟩]⟩⟩
    s.WF = true ∧ regroup (tuples s) = s.days ∧ (records s).flatten.length = 280 := by decide +kernel

end Ramses.C17
