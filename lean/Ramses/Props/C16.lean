/-
  C16 — saved state restores: snapshot -> fresh gateway -> snapshot is a fixpoint.

  `route` (which slots of which entities a packet is stored in) is an arbitrary function of the
  packet: the theorems hold for every topology, every history length and every packet mix.  That
  the real routing of a gateway rebuilt from the reported schema is such a function of the packet
  alone is what the per-run comparison on real gateways establishes (DESIGN.md §3 C16).
-/
import Ramses.Model.Snapshot
import Ramses.Proofs.Fold
import Ramses.Proofs.Basic
namespace Ramses.C16
open Ramses.Snap

variable {K : Type} [DecidableEq K]

/-- a snapshot never contains a request -/
theorem wanted_no_rq (inc : Bool) (p : P) (h : wanted inc p = true) : p.verb ≠ "RQ" := by
  intro hv
  unfold wanted at h
  simp [hv] at h

/-- ... nor a write other than a schedule fragment -/
theorem wanted_w_only_0404 (inc : Bool) (p : P) (h : wanted inc p = true) (hv : p.verb = " W") :
    p.code = "0404" := by
  unfold wanted at h
  by_cases h1 : p.code = "313F"
  · simp [h1, hv] at h
  · by_cases h2 : p.code = "0404"
    · exact h2
    · simp [h1, h2, hv] at h

/-- ... nor, unless asked for, an expired packet — except the controller's date/time (313F), which
    the code keeps on purpose ("usu. expired, useful 4 back-back restarts": a recorded finding) -/
theorem wanted_not_expired_partial (p : P) (h : wanted false p = true) (hc : p.code ≠ "313F") :
    p.expired = false := by
  unfold wanted at h
  simp only [hc, if_false] at h
  cases he : p.expired with
  | false => rfl
  | true => simp [he] at h

theorem expired_313f_kept_witness :
    wanted false ⟨0, " I", "313F", 9, true⟩ = true := by decide +kernel

theorem final_filter (route : P → List K) (h : List P) (q : P → Bool) (k : K) (p : P)
    (hf : final route h k = some p) (hq : q p = true) : final route (h.filter q) k = some p := by
  unfold final at *
  rw [List.filter_filter]
  have : (h.filter (fun a => decide (k ∈ route a) && q a)) = (h.filter (fun a => decide (k ∈ route a))).filter q := by
    rw [List.filter_filter]
    congr 1; funext a; exact Bool.and_comm _ _
  rw [this]
  exact getLast?_filter_of_last _ q p hf hq

theorem heldIn_iff (route : P → List K) (h : List P) (p : P) :
    heldIn route h p = true ↔ ∃ k, k ∈ route p ∧ final route h k = some p := by
  unfold heldIn
  rw [List.any_eq_true]
  exact exists_congr fun k => and_congr_right fun _ => decide_eq_true_iff

theorem mem_snapOf (route : P → List K) (inc : Bool) (h : List P) (p : P) :
    p ∈ snapOf route inc h ↔ p ∈ h ∧ wanted inc p = true ∧ ∃ k, k ∈ route p ∧ final route h k = some p := by
  unfold snapOf; rw [List.mem_filter, Bool.and_eq_true, heldIn_iff]

theorem mem_of_final {route : P → List K} {h : List P} {k : K} {p : P} (hf : final route h k = some p) : p ∈ h :=
  (List.mem_filter.mp (List.mem_of_getLast? hf)).1

theorem final_snapOf {route : P → List K} {inc : Bool} {h : List P} {k : K} {p : P} (hw : wanted inc p = true)
    (hk : k ∈ route p) (hf : final route h k = some p) : final route (snapOf route inc h) k = some p :=
  final_filter route h _ k p hf (Bool.and_eq_true_iff.mpr ⟨hw, (heldIn_iff route h p).mpr ⟨k, hk, hf⟩⟩)

/-- **snapshot -> fresh gateway -> snapshot is a fixpoint.**  Replaying exactly the saved packets, in
    timestamp order, through the same store logic leaves exactly the saved packets to be saved again:
    nothing is lost (each saved packet is still the last one in the slot that held it) and nothing
    appears (only saved packets were replayed). -/
theorem snapshot_fixpoint (route : P → List K) (inc : Bool) (h : List P) :
    snapOf route inc (snapOf route inc h) = snapOf route inc h := by
  refine List.filter_eq_self.mpr fun p hp => ?_
  obtain ⟨_, hw, k, hk, hf⟩ := (mem_snapOf route inc h p).mp hp
  exact Bool.and_eq_true_iff.mpr ⟨hw, (heldIn_iff route _ p).mpr ⟨k, hk, final_snapOf hw hk hf⟩⟩

theorem final_append (route : P → List K) (a b : List P) (k : K) :
    final route (a ++ b) k = (final route b k).or (final route a k) := by
  unfold final
  rw [List.filter_append, List.getLast?_append]

/-- **restoring a snapshot into the gateway it came from (or restoring it twice) changes nothing
    that a snapshot can see**: the packets saved afterwards are exactly the packets saved before -/
theorem restore_into_self (route : P → List K) (inc : Bool) (h : List P) (p : P) :
    p ∈ snapOf route inc (h ++ snapOf route inc h) ↔ p ∈ snapOf route inc h := by
  rw [mem_snapOf route inc (h ++ _)]
  constructor
  · rintro ⟨hmem, hw, k, hk, hf⟩
    rw [final_append] at hf
    -- the slot's last packet comes from the replayed snapshot if it holds one for the slot, else from `h`
    cases hb : final route (snapOf route inc h) k with
    | some x => rw [hb] at hf; cases hf; exact mem_of_final hb
    | none =>
      rw [hb] at hf
      rcases List.mem_append.mp hmem with hm | hm
      · exact (mem_snapOf route inc h p).mpr ⟨hm, hw, k, hk, hf⟩
      · exact hm
  · intro hp
    obtain ⟨hmem, hw, k, hk, hf⟩ := (mem_snapOf route inc h p).mp hp
    exact ⟨List.mem_append_left _ hmem, hw, k, hk, by rw [final_append, final_snapOf hw hk hf]; rfl⟩

theorem slot_assign (s : Store K) (k k' : K) (p : P) :
    slot (assign s k p) k' = if k' = k then some p else slot s k' :=
  find?_key_put s k' k p

theorem slot_handle (p : P) (k : K) : ∀ (ks : List K) (s : Store K),
    slot (ks.foldl (fun s k => assign s k p) s) k = if k ∈ ks then some p else slot s k := by
  intro ks
  induction ks with
  | nil => intro s; rfl
  | cons k0 ks ih =>
    intro s
    rw [List.foldl_cons, ih, slot_assign]
    by_cases h1 : k ∈ ks
    · simp [h1]
    · by_cases h2 : k = k0
      · simp [h2]
      · simp [h1, h2]

/-- after any history the slot `k` of the store holds the last packet routed to it -/
theorem slot_is_final (route : P → List K) (k : K) : ∀ (h : List P) (s : Store K),
    slot (h.foldl (handle route) s) k = (final route h k).or (slot s k) := by
  intro h s
  rw [foldl_last_writer (v := (slot · k)) (g := id) (w := fun p => decide (k ∈ route p))
    (fun s p => by rw [handle, slot_handle p k]; simp), Option.map_id]
  rfl

/-- non-vacuity: a newer packet for the same slot displaces the older one from the snapshot, a
    request is never saved -/
example :
    let route : P → List Nat := fun p => if p.code = "30C9" then [1, 2] else [3]
    let a : P := ⟨1, " I", "30C9", 3, false⟩
    let b : P := ⟨2, "RQ", "2309", 1, false⟩
    let c : P := ⟨3, " I", "30C9", 6, false⟩
    snapOf route false [a, b, c] = [c] := by decide +kernel

end Ramses.C16
