/-
  C14 — state is fresh: attributes reflect the newest live message, stale data ages out.

  Histories, clock values, lifespans, zones and codes are arbitrary (unbounded); the constants
  (HAS_EXPIRED, the 3 s grace) are the ones the translator reads out of /repo.
-/
import Ramses.Model.MsgDb
import Ramses.Proofs.Fold
namespace Ramses.C14
open Ramses.Db

/-! ### the constants the statement of the property fixes -/

theorem repo_expiry_constants :
    Gen.hasExpiredNum = 2 ∧ Gen.hasExpiredDen = 1 ∧ Gen.expiryGraceUs = 3000000 := by decide

theorem expiredAt_dur {now : Int} {m : Msg} {l : Nat} (hl : m.life = .dur l) :
    expiredAt now m = true ↔ l = 0 ∨ 2 * (l : Int) + 3000000 ≤ now - m.dtm := by
  obtain ⟨h1, h2, h3⟩ := repo_expiry_constants
  unfold expiredAt grace
  rw [hl, h1, h2, h3]
  show (if l = 0 then true else decide _) = true ↔ _
  by_cases h0 : l = 0
  · simp [h0]
  · rw [if_neg h0, decide_eq_true_eq]; omega

/-- never expired before its lifetime has passed -/
theorem not_before (now : Int) (m : Msg) (l : Nat) (hl : m.life = .dur l) (hpos : 0 < l)
    (h : now - m.dtm < (l : Int)) : expiredAt now m = false :=
  Bool.eq_false_iff.mpr fun he => by have := (expiredAt_dur hl).mp he; omega

/-- always expired once twice the lifetime plus the grace has passed -/
theorem always_after (now : Int) (m : Msg) (l : Nat) (hl : m.life = .dur l)
    (h : 2 * (l : Int) + 3000000 ≤ now - m.dtm) : expiredAt now m = true :=
  (expiredAt_dur hl).mpr (Or.inr h)

/-- a message that cannot expire never does -/
theorem cant_never (now : Int) (m : Msg) (hl : m.life = .cant) : expiredAt now m = false := by
  unfold expiredAt; rw [hl]

/-- expiry never un-happens as the clock advances -/
theorem expiry_monotone (now now' : Int) (m : Msg) (h : now ≤ now') (he : expiredAt now m = true) :
    expiredAt now' m = true := by
  cases hl : m.life with
  | cant => rw [cant_never now m hl] at he; cases he
  | dur l => exact (expiredAt_dur hl).mpr (by have := (expiredAt_dur hl).mp he; omega)

theorem expired_stuck (s : Slot) (t : Int) (h : (s.expired t).1 = true) : (s.expired t).2.stuck = true := by
  revert h
  fun_cases Slot.expired s t
  · exact fun _ => ‹_›
  · exact id

theorem stuck_reads_true (ts : List Int) (s : Slot) (hs : s.stuck = true) : ∀ r ∈ (s.reads ts).1, r = true := by
  induction ts with
  | nil => exact fun _ hr => nomatch hr
  | cons t ts ih =>
    intro r hr
    simp only [Slot.reads, Slot.expired, hs, if_true, List.mem_cons] at hr
    exact hr.elim id (ih r)

/-- **expiry is sticky for the object, whatever the clock does** (even if it steps backwards):
    in any sequence of `_expired` reads, once one returns True every later one does -/
theorem reads_sticky : ∀ (ts : List Int) (s : Slot),
    ((s.reads ts).1).Pairwise (fun a b => a = true → b = true) := by
  intro ts
  induction ts with
  | nil => exact fun _ => .nil
  | cons t ts ih =>
    intro s
    simp only [Slot.reads, List.pairwise_cons]
    exact ⟨fun b hb ha => stuck_reads_true ts _ (expired_stuck s t ha) b hb, ih _⟩

theorem lookup_put (db : Db) (m : Msg) (c : String) :
    lookup (put db m) c = if c = m.code then some ⟨m, false⟩ else lookup db c :=
  find?_key_put db c m.code ⟨m, false⟩

/-- which messages matter for `(zone, code)` -/
def matters (ctl z code : String) (m : Msg) : Bool := relevant ctl z m && (m.code == code)

theorem lookup_zoneHandle (ctl z code : String) (db : Db) (m : Msg) :
    lookup (zoneHandle ctl z db m) code = if matters ctl z code m then some ⟨m, false⟩ else lookup db code := by
  unfold zoneHandle matters
  cases relevant ctl z m with
  | false => rfl
  | true =>
    rw [if_pos rfl, lookup_put, Bool.true_and]
    simp only [beq_iff_eq, eq_comm (a := code)]

/-- **Freshness.**  After *any* history of messages, the slot a zone consults for a code holds
    exactly the last message of the history that was relevant for that zone and code (from its
    controller, I/RP, carrying the zone's index) — or what was there before, if there was none. -/
theorem fresh (ctl z code : String) (hs : List Msg) (db : Db) :
    lookup (hs.foldl (zoneHandle ctl z) db) code =
      match (hs.filter (matters ctl z code)).getLast? with
      | some m => some ⟨m, false⟩
      | none => lookup db code := by
  rw [foldl_last_writer (v := (lookup · code)) (g := (⟨·, false⟩)) (lookup_zoneHandle ctl z code)]
  cases (hs.filter (matters ctl z code)).getLast? <;> rfl

/-- **Interleaving independence.**  Two histories that agree on the messages that matter for
    `(zone, code)` leave the same message in charge of that attribute — traffic for other zones,
    other codes, other devices and other controllers is irrelevant, wherever it is interleaved. -/
theorem interleaving_irrelevant (ctl z code : String) (hs hs' : List Msg) (db : Db)
    (h : hs.filter (matters ctl z code) = hs'.filter (matters ctl z code)) :
    lookup (hs.foldl (zoneHandle ctl z) db) code = lookup (hs'.foldl (zoneHandle ctl z) db) code := by
  rw [fresh, fresh, h]

/-- a read whose codes pick the slot `s`: the value is `s`'s element for the zone, whatever the clock; the
    store loses the message if this read finds it expired, and else remembers the memo -/
theorem readAttr_of_pick {now : Int} {db : Db} {codes : List String} {z : String} {s : Slot}
    (hp : pick db codes = some s) :
    readAttr now db codes z =
      (elemOf z s.m, if (s.expired now).1 then delete db s.m else setSlot db (s.expired now).2) := by
  unfold readAttr
  rw [hp]
  simp only
  cases s.expired now with
  | mk ex s' => cases ex <;> rfl

/-- while the message in charge is live, a read reports exactly the element it carries for the zone -/
theorem read_live (now : Int) (db : Db) (codes : List String) (z : String) (s : Slot)
    (hp : pick db codes = some s) (hl : (s.expired now).1 = false) :
    (readAttr now db codes z).1 = elemOf z s.m ∧ (readAttr now db codes z).1 = readSpec now db codes z := by
  rw [readAttr_of_pick hp, readSpec, hp]
  simp only [hl, Bool.false_eq_true, if_false, and_self]

theorem pick_single (db : Db) (c : String) : pick db [c] = lookup db c := by
  unfold pick
  cases lookup db c <;> rfl

/-- no two slots for one code -/
def WF (db : Db) : Prop := (db.map (·.1)).Nodup

theorem lookup_cons (e : String × Slot) (es : Db) (c : String) :
    lookup (e :: es) c = if e.1 = c then some e.2 else lookup es c := by
  unfold lookup; by_cases h : e.1 = c <;> simp [h]

theorem lookup_none {db : Db} {c : String} (h : ∀ e ∈ db, e.1 ≠ c) : lookup db c = none := by
  unfold lookup; rw [List.find?_eq_none.mpr (by simpa using h)]; rfl

/-- with one slot per code, the slot of `c` survives a filter exactly if it passes it -/
theorem lookup_filter (p : String × Slot → Bool) {c : String} {s : Slot} : ∀ (db : Db), WF db →
    lookup db c = some s → lookup (db.filter p) c = if p (c, s) then some s else none
  | [], _, h => nomatch h
  | e :: es, hwf, h => by
    have hwf' : e.1 ∉ es.map (·.1) ∧ WF es := List.nodup_cons.mp hwf
    rw [lookup_cons] at h
    rw [List.filter_cons]
    by_cases hk : e.1 = c
    · rw [if_pos hk] at h; cases h; subst hk
      have hn : lookup (es.filter p) e.1 = none :=
        lookup_none fun x hx hxc => hwf'.1 (hxc ▸ List.mem_map_of_mem (List.mem_filter.mp hx).1)
      split
      · rw [lookup_cons, if_pos rfl]
      · exact hn
    · rw [if_neg hk] at h
      have ih := lookup_filter p es hwf'.2 h
      split
      · rw [lookup_cons, if_neg hk, ih]
      · exact ih

theorem lookup_delete (db : Db) (s : Slot) (c : String) (hwf : WF db) (hl : lookup db c = some s)
    (hc : s.m.code = c) : lookup (delete db s.m) c = none := by
  rw [delete, lookup_filter _ db hwf hl]; simp [hc]

/-- **Once the expiry has been noticed the attribute reads as unknown** (until a new message
    arrives): the read after the one that noticed it — at any clock value — returns nothing.
    `_partial`: the property asks this of the *noticing* readAttr too; the code returns the stale
    value once more (see `stale_first_read_witness`). -/
theorem expired_then_unknown_partial (now now' : Int) (db : Db) (c z : String) (s : Slot) (hwf : WF db)
    (hl : lookup db c = some s) (hc : s.m.code = c) (he : (s.expired now).1 = true) :
    (readAttr now' (readAttr now db [c] z).2 [c] z).1 = none := by
  -- the first read finds the message expired and deletes it; the second finds no slot for `c`
  rw [readAttr_of_pick ((pick_single db c).trans hl), he, if_pos rfl]
  unfold readAttr
  rw [pick_single, lookup_delete db s c hwf hl hc]

theorem wf_nil : WF ([] : Db) := List.nodup_nil

theorem wf_put (db : Db) (m : Msg) (h : WF db) : WF (put db m) := by
  unfold WF put at *
  simp only [List.map_cons, List.nodup_cons]
  constructor
  · intro hmem
    obtain ⟨e, he, hc⟩ := List.mem_map.mp hmem
    have := (List.mem_filter.mp he).2
    simp [hc] at this
  · exact List.Nodup.sublist (List.Sublist.map _ List.filter_sublist) h

theorem wf_history (ctl z : String) : ∀ (hs : List Msg) (db : Db), WF db → WF (hs.foldl (zoneHandle ctl z) db) :=
  fun hs db => foldl_inv hs db fun db m _ h => by
    unfold zoneHandle; split
    · exact wf_put db m h
    · exact h

/-- an attribute fed by two codes (setpoint: 2309 and 2349) is taken from whichever of the two
    messages in charge is newer -/
theorem pick_two (db : Db) (a b : String) (sa sb : Slot) (ha : lookup db a = some sa) (hb : lookup db b = some sb) :
    pick db [a, b] = some (if sb.m.dtm > sa.m.dtm then sb else sa) := by
  simp only [pick, ha, hb]
  split <;> rfl

/-! ### the whole system: a read in one zone never takes a live message away from another -/

theorem delete_keeps_others (db : Db) (m : Msg) (c : String) (s : Slot) (h : lookup db c = some s)
    (hne : s.m.seq ≠ m.seq) (hwf : WF db) : lookup (delete db m) c = some s := by
  rw [delete, lookup_filter _ db hwf h]; simp [hne]

/-- the full statement fails on the unchanged code: the read that notices the expiry still
    reports the stale value (a zone temperature two hours old with a six-minute lifetime) -/
theorem stale_first_read_witness :
    let m : Msg := ⟨1, "01:145038", "01:145038", " I", "30C9", 0, .dur 360000000, [("01", 2106)]⟩
    let db : Db := zoneHandle "01:145038" "01" [] m
    let now : Int := 7200000000
    readSpec now db ["30C9"] "01" = none ∧ (readAttr now db ["30C9"] "01").1 = some 2106 ∧
      (readAttr now (readAttr now db ["30C9"] "01").2 ["30C9"] "01").1 = none := by
  decide +kernel

/-- second way the full statement fails on the unchanged code: a two-code attribute (setpoint:
    2309 + 2349) falls back to the *older* message of the other code once the newest has expired
    and been dropped, instead of reading as unknown -/
theorem fallback_older_witness :
    let ctl := "01:145038"
    let a : Msg := ⟨1, ctl, "18:006402", "RP", "2349", 0, .dur 3600000000, [("01", 2000)]⟩
    let b : Msg := ⟨2, ctl, ctl, " I", "2309", 100000000, .dur 360000000, [("00", 1800), ("01", 2100)]⟩
    let db : Db := [a, b].foldl (zoneHandle ctl "01") []
    let now : Int := 900000000
    readSpec now db ["2309", "2349"] "01" = none ∧
      (readAttr now (readAttr now db ["2309", "2349"] "01").2 ["2309", "2349"] "01").1 = some 2000 := by
  decide +kernel

/-- non-vacuity of `fresh`: three interleaved messages, the zone-01 temperature is the last
    30C9 from the controller that carries zone 01 -/
example :
    let ctl := "01:145038"
    let a : Msg := ⟨1, ctl, ctl, " I", "30C9", 10, .dur 360000000, [("00", 2000), ("01", 2100)]⟩
    let b : Msg := ⟨2, ctl, "18:006402", "RP", "30C9", 20, .dur 360000000, [("00", 1990)]⟩
    let c : Msg := ⟨3, "04:000001", ctl, " I", "30C9", 30, .dur 360000000, [("01", 1500)]⟩
    let d : Msg := ⟨4, ctl, ctl, " I", "2309", 40, .dur 360000000, [("01", 1800)]⟩
    (readAttr 50 ([a, b, c, d].foldl (zoneHandle ctl "01") []) ["30C9"] "01").1 = some 2100 := by
  decide +kernel

/-- **a one-zone announcement folded into the array is the zone's value**: when a message's elements
    are an array followed by what was received after it (the gateway merges a second packet of the
    same code that arrives within 3 s into the first), the element read for a zone is the *later*
    one that names it -/
theorem elemOf_later_wins (z : String) (m : Msg) (a b : List (String × Int)) (hm : m.elems = a ++ b)
    (e : String × Int) (hb : b.reverse.find? (fun e => e.1 = z) = some e) : elemOf z m = some e.2 := by
  unfold elemOf
  rw [hm, List.reverse_append, List.find?_append, hb]
  rfl

/-- ... and the array's own element only when the later part does not name the zone -/
theorem elemOf_earlier_when_absent (z : String) (m : Msg) (a b : List (String × Int)) (hm : m.elems = a ++ b)
    (hb : b.reverse.find? (fun e => e.1 = z) = none) :
    elemOf z m = (a.reverse.find? (fun e => e.1 = z)).map (·.2) := by
  unfold elemOf
  rw [hm, List.reverse_append, List.find?_append, hb]
  rfl

end Ramses.C14
