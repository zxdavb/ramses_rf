/-
  C11 — transmit regulation holds for every send pattern.

  All theorems are about arbitrary histories (lists of any length), arbitrary frame sizes and
  arbitrary window positions; the rates and caps `R`, `C`, `M`, `W` are arbitrary too
  (`duty_window_total_repo` puts in the duty-cycle constants the translator reads out of /repo).

  Three regulators, in this order: the duty-cycle bucket of the serial gateway (window bounds by a
  potential argument, then the order of the due times); the leaker semaphore (order, spacing,
  draining); the MQTT token bucket (the same potential argument, `mq_count_le`).  Then the constants
  read from /repo, the non-vacuity examples, and what cancelled callers leave of the order.
-/
import Ramses.Model.Limiter
import Ramses.Gen.Consts
import Ramses.Proofs.Basic
namespace Ramses.C11
open Ramses.Lim

/-- the refill both buckets share: a level `l` stamped at `a`, read at `t`, with rate `r` and cap `c` -/
def topUp (r : Nat) (c l : Int) (a t : Nat) : Int := min (l + ((t - a : Nat) : Int) * (r : Int)) c

theorem topUp_le_cap (r : Nat) (c l : Int) (a t : Nat) : topUp r c l a t ≤ c := Int.min_le_right _ _

theorem topUp_pot (r : Nat) (c l : Int) {a t : Nat} (h : a ≤ t) :
    topUp r c l a t - (t : Int) * r ≤ l - (a : Int) * r := by
  unfold topUp; rw [cast_sub_mul h]; omega

theorem pot_step {φ φ' c acc B : Int} (hdrop : φ' + c ≤ φ) (hfloor : c ≠ 0 → -B ≤ φ')
    (ih : acc ≤ max 0 (φ' + B)) : c + acc ≤ max 0 (φ + B) := by omega

/-- potential: level minus what the clock has already paid for -/
def phi (R : Nat) (b : Bucket) : Int := b.lvl - (b.last : Int) * (R : Int)

theorem refill_eq (R C : Nat) (b : Bucket) (t : Nat) : refill R C b t = topUp R C b.lvl b.last t := rfl

theorem admit_last (R C : Nat) (b : Bucket) (t z : Nat) : (debit R C b t z).last = t := rfl

theorem admit_lvl_le (R C : Nat) (b : Bucket) (t z : Nat) :
    (debit R C b t z).lvl + (z : Int) ≤ (C : Int) := by
  have := topUp_le_cap R C b.lvl b.last t
  simp only [debit, refill_eq]; omega

/-- a bucket's debt is repaid by its due time -/
theorem neg_due_le_phi (R : Nat) (b : Bucket) : -(dueR R b : Int) ≤ phi R b := by
  unfold dueR debt phi; omega

theorem timely_append (R C : Nat) : ∀ (xs ys : List Req) (b : Bucket),
    Timely R C b (xs ++ ys) ↔ Timely R C b xs ∧ Timely R C (admitAll R C b xs) ys
  | [], ys, b => by simp [Timely, admitAll]
  | x :: xs, ys, b => by
    simp only [List.cons_append, Timely, admitAll, List.foldl_cons, and_assoc]
    rw [timely_append R C xs ys]; rfl

theorem admitAll_append (R C : Nat) (xs ys : List Req) (b : Bucket) :
    admitAll R C b (xs ++ ys) = admitAll R C (admitAll R C b xs) ys := by
  simp [admitAll]

theorem sumZ_append (xs ys : List Req) : sumZ (xs ++ ys) = sumZ xs + sumZ ys := by
  simp only [sumZ, List.map_append, List.sum_append]

/-- sum of the sizes of the requests of `rs` written in the window -/
def winZ (s e : Nat) (rs : List Req) : Nat := sumZ (rs.filter (inWindow s e))

theorem sumZ_filter_cons (p : Req → Bool) (r : Req) (rs : List Req) :
    sumZ ((r :: rs).filter p) = (if p r then r.z else 0) + sumZ (rs.filter p) := by
  unfold sumZ; rw [List.filter_cons]; split <;> simp

theorem sumZ_filter_mono (p q : Req → Bool) : ∀ rs : List Req, (∀ r ∈ rs, p r = true → q r = true) →
    sumZ (rs.filter p) ≤ sumZ (rs.filter q)
  | [], _ => Nat.le_refl _
  | r :: rs, h => by
    have ih := sumZ_filter_mono p q rs fun r' hr' => h r' (List.mem_cons_of_mem _ hr')
    have hr := h r (List.mem_cons_self ..)
    rw [sumZ_filter_cons, sumZ_filter_cons]
    cases hp : p r
    · simp only [Bool.false_eq_true, if_false]; omega
    · simp only [hr hp, if_true]; omega

theorem winZ_append (s e : Nat) (xs ys : List Req) : winZ s e (xs ++ ys) = winZ s e xs + winZ s e ys := by
  rw [winZ, List.filter_append, sumZ_append]; rfl

/-- What a timely history writes by `e` is covered by the potential: `Φ` is any bound on the
    potential an admission of the history would find, the bucket topped up. A request written by `e`
    has repaid its debt by then, so it leaves the potential at least `-e*R`; every admission before
    it lowered the potential by its size. -/
theorem window_le_pot (R C s e : Nat) : ∀ (rs : List Req) (b : Bucket) (Φ : Int), Timely R C b rs →
    (∀ r ∈ rs, b.last ≤ r.t → refill R C b r.t - (r.t : Int) * (R : Int) ≤ Φ) →
    (winZ s e rs : Int) ≤ max 0 (Φ + (e : Int) * (R : Int))
  | [], _, _, _, _ => by simp only [winZ, sumZ, List.filter_nil, List.map_nil, List.sum_nil]; omega
  | r :: rs, b, Φ, ⟨h1, h2, h3⟩, hΦ => by
    have hφ := hΦ r (List.mem_cons_self ..) h1
    have hd := neg_due_le_phi R (debit R C b r.t r.z)
    have ih := window_le_pot R C s e rs _ (phi R (debit R C b r.t r.z)) h3 fun r' _ ht => topUp_pot R C _ ht
    rw [winZ, sumZ_filter_cons, ← winZ]; push_cast
    refine pot_step (φ' := phi R (debit R C b r.t r.z)) ?_ (fun hc => ?_) ih
    · simp only [phi, debit]; split <;> omega
    · have hw : r.w ≤ e := by
        by_cases hw : inWindow s e r = true
        · simp only [inWindow, Bool.and_eq_true, decide_eq_true_eq] at hw; exact hw.2
        · simp [hw] at hc
      have := Nat.mul_le_mul_right R hw
      omega

/-- **Window bound (serial gateway)**, from any bucket state: for every timely history (any number of
    requests, any sizes, any concurrency) admitted after `s`, the bits written in `(s, e]` never exceed
    one full bucket plus the refill over the window: an admission after `s` finds at most a full
    bucket, whatever went before. -/
theorem duty_window_bound (R C : Nat) (b : Bucket) (post : List Req) (s e : Nat) (hse : s ≤ e)
    (hpost : ∀ r ∈ post, s < r.t) (ht : Timely R C b post) : winZ s e post ≤ C + (e - s) * R := by
  have h := window_le_pot R C s e post b ((C : Int) - (s : Int) * R) ht fun r hr _ => by
    have := topUp_le_cap R C b.lvl b.last r.t
    have := Nat.mul_le_mul_right R (Nat.le_of_lt (hpost r hr))
    rw [refill_eq]; omega
  have := Nat.mul_le_mul_right R hse
  rw [Nat.sub_mul]; omega

/-- requests of `pre` written inside the window were pending at `s` -/
theorem winZ_pre_le_pending (s e : Nat) (pre : List Req) (hpre : ∀ r ∈ pre, r.t ≤ s) :
    winZ s e pre ≤ sumZ (pre.filter (pendingAt s)) := by
  refine sumZ_filter_mono _ _ pre fun r hr hw => ?_
  simp only [inWindow, pendingAt, Bool.and_eq_true, decide_eq_true_eq] at hw ⊢
  exact ⟨hpre r hr, hw.1⟩

/-- **the statement of the property**: bits handed to the radio in any window never exceed the
    allowance for that window plus one full bucket plus one frame per write already pending -/
theorem duty_window_total (R C : Nat) (pre post : List Req) (s e : Nat) (hse : s ≤ e)
    (hpre : ∀ r ∈ pre, r.t ≤ s) (hpost : ∀ r ∈ post, s < r.t)
    (ht : Timely R C ⟨C, 0⟩ (pre ++ post)) :
    winZ s e (pre ++ post) ≤ (e - s) * R + C + sumZ (pre.filter (pendingAt s)) := by
  rw [winZ_append]
  have a := duty_window_bound R C _ post s e hse hpost ((timely_append R C pre post _).1 ht).2
  have b := winZ_pre_le_pending s e pre hpre
  omega

/-- long-run rate: everything written by time `e` is at most one bucket plus `R * e` -/
theorem duty_long_run (R C : Nat) (rs : List Req) (e : Nat) (hpos : ∀ r ∈ rs, 0 < r.t)
    (ht : Timely R C ⟨C, 0⟩ rs) : winZ 0 e rs ≤ C + e * R :=
  duty_window_bound R C _ rs 0 e (Nat.zero_le _) hpos ht

/-- **Order is preserved by the wait**: an admission never moves the due time back, so the timers of
    the sleeping writers fire in the order the frames were offered. -/
theorem dueR_le_debit (R C : Nat) (b : Bucket) (t z : Nat) (h : b.last ≤ t) :
    dueR R b ≤ dueR R (debit R C b t z) := by
  have := topUp_pot R C b.lvl h
  have := Nat.mul_le_mul_right R h
  simp only [dueR, debt, debit, refill_eq]; omega

theorem dueR_lt_debit (R C : Nat) (b : Bucket) (t z : Nat) (h : b.last ≤ t) (hz : 0 < z)
    (hsleep : (debit R C b t z).lvl < 0) : dueR R b < dueR R (debit R C b t z) := by
  have := topUp_pot R C b.lvl h
  have := Nat.mul_le_mul_right R h
  simp only [dueR, debt, debit, refill_eq] at hsleep ⊢; omega

theorem le_dues (R C : Nat) : ∀ (rs : List Req) (b : Bucket), Timely R C b rs →
    ∀ x ∈ dues R C b rs, dueR R b ≤ x
  | [], _, _, x, hx => by cases hx
  | r :: rs, b, ⟨h1, _, h3⟩, x, hx => by
    have step := dueR_le_debit R C b r.t r.z h1
    rcases List.mem_cons.1 hx with hx | hx
    · exact hx ▸ step
    · exact Nat.le_trans step (le_dues R C rs _ h3 x hx)

theorem dues_sorted (R C : Nat) : ∀ (rs : List Req) (b : Bucket), Timely R C b rs →
    (dues R C b rs).Pairwise (· ≤ ·)
  | [], _, _ => List.Pairwise.nil
  | _ :: rs, _, ⟨_, _, h3⟩ => List.pairwise_cons.2 ⟨le_dues R C rs _ h3, dues_sorted R C rs _ h3⟩

/-- a writer that has to sleep is due strictly later than its predecessor (frames are not empty) -/
theorem due_step_strict (R C : Nat) (b : Bucket) (t1 z1 t2 z2 : Nat) (_h0 : b.last ≤ t1) (h : t1 ≤ t2)
    (hz : 0 < z2) (hsleep : (debit R C (debit R C b t1 z1) t2 z2).lvl < 0)
    (hprev : (debit R C b t1 z1).lvl < 0) :
    dueR R (debit R C b t1 z1) < dueR R (debit R C (debit R C b t1 z1) t2 z2) :=
  dueR_lt_debit R C _ t2 z2 h hz hsleep

theorem semRun_cons (s : Sem) (ev : SemEv) (evs : List SemEv) : semRun s (ev :: evs) = semRun (semStep s ev) evs := rfl

theorem semRun_append (s : Sem) (a b : List SemEv) : semRun s (a ++ b) = semRun (semRun s a) b := by
  simp [semRun]

theorem semStep_fifo (s : Sem) (ev : SemEv) :
    (semStep s ev).out ++ (semStep s ev).q = s.out ++ s.q ++ arrivals [ev] := by
  obtain ⟨tok, q, out⟩ := s
  cases ev with
  | tick => cases q <;> simp [semStep, arrivals]
  | arrive id => cases tok <;> cases q <;> simp [semStep, arrivals]

theorem arrivals_cons (ev : SemEv) (evs : List SemEv) : arrivals (ev :: evs) = arrivals [ev] ++ arrivals evs := by
  cases ev <;> rfl

/-- FIFO invariant: writers that acquired, followed by the writers still waiting, are exactly the
    arrivals in arrival order — nobody is lost, duplicated or overtaken -/
theorem sem_fifo (evs : List SemEv) : ∀ (s : Sem),
    (semRun s evs).out ++ (semRun s evs).q = s.out ++ s.q ++ arrivals evs := by
  induction evs with
  | nil => intro s; simp [semRun, arrivals]
  | cons ev evs ih =>
    intro s
    rw [semRun_cons, ih, semStep_fifo, List.append_assoc, ← arrivals_cons]

/-- **in order, at most once**: the written frames are a prefix of the offered frames -/
theorem sem_in_order (evs : List SemEv) : (semRun Sem.init evs).out <+: arrivals evs :=
  ⟨_, sem_fifo evs Sem.init⟩

/-- the free token as a number: the potential of the spacing argument -/
def tokN (s : Sem) : Nat := if s.tok then 1 else 0

theorem semStep_count (s : Sem) (ev : SemEv) :
    (semStep s ev).out.length + tokN (semStep s ev) ≤ s.out.length + tokN s + ticks [ev] := by
  obtain ⟨tok, q, out⟩ := s
  cases ev with
  | tick => cases q <;> cases tok <;> simp [semStep, tokN, ticks]
  | arrive id => cases tok <;> cases q <;> simp [semStep, tokN, ticks]

theorem ticks_cons (ev : SemEv) (evs : List SemEv) : ticks (ev :: evs) = ticks [ev] + ticks evs := by
  cases ev <;> simp [ticks, Nat.add_comm]

theorem sem_spacing_aux (evs : List SemEv) : ∀ (s : Sem),
    (semRun s evs).out.length + tokN (semRun s evs) ≤ s.out.length + tokN s + ticks evs := by
  induction evs with
  | nil => intro s; exact Nat.le_refl _
  | cons ev evs ih =>
    intro s
    have := ih (semStep s ev)
    have := semStep_count s ev
    rw [semRun_cons, ticks_cons]; omega

/-- **Write spacing**: in *any* window of *any* history (before / window / after are arbitrary
    event lists), the number of writes is at most the number of leaker ticks in it, plus one -/
theorem sem_spacing (before window : List SemEv) :
    (semRun Sem.init (before ++ window)).out.length
      ≤ (semRun Sem.init before).out.length + ticks window + 1 := by
  rw [semRun_append]
  have := sem_spacing_aux window (semRun Sem.init before)
  have h1 : tokN (semRun Sem.init before) ≤ 1 := by unfold tokN; split <;> omega
  omega

theorem semRun_ticks (n : Nat) : ∀ (s : Sem), (semRun s (List.replicate n .tick)).out = s.out ++ s.q.take n ∧
    (semRun s (List.replicate n .tick)).q = s.q.drop n := by
  induction n with
  | zero => intro s; simp [semRun]
  | succ n ih =>
    intro s
    rw [List.replicate_succ, semRun_cons, (ih _).1, (ih _).2]
    obtain ⟨tok, q, out⟩ := s
    cases q <;> simp [semStep]

/-- **only delays**: once offers stop, `n ≥ |queue|` further ticks write every accepted frame:
    the written list is then exactly the offered list (each once, in order) -/
theorem sem_drains (evs : List SemEv) (n : Nat) (hn : (semRun Sem.init evs).q.length ≤ n) :
    (semRun Sem.init (evs ++ List.replicate n .tick)).out = arrivals evs := by
  rw [semRun_append, (semRun_ticks n _).1, List.take_of_length_le hn]
  exact sem_fifo evs Sem.init

def MWF (k : Tok) : Prop := k.n ≤ k.mx

/-- potential of the MQTT bucket, as `phi` for the duty-cycle one -/
def mphi (M : Nat) (k : Tok) : Int := k.n - (k.stamp : Int) * (M : Int)

def wrote : MqOut → Nat
  | .dropped => 0
  | .written _ => 1

/-- frames written (not dropped) when ordinary offers are made at the given times -/
def mqCount (M W : Nat) (k : Tok) : List Nat → Nat
  | [] => 0
  | t :: ts => wrote (mqOffer M W k t false).2 + mqCount M W (mqOffer M W k t false).1 ts

/-- the times do not decrease, from `last` on -/
def Ordered (last : Nat) : List Nat → Prop
  | [] => True
  | t :: ts => last ≤ t ∧ Ordered t ts

theorem mqOffer_stamp (M W : Nat) (k : Tok) (t : Nat) (f : Bool) : (mqOffer M W k t f).1.stamp = t := by
  unfold mqOffer; simp only; split <;> rfl

/-- what an ordinary offer does, by cases: below `1 - rate` tokens once topped up it is dropped and the
    level only topped up; otherwise it is written, one token goes, and the debt is the wait -/
theorem mqOffer_n (M W : Nat) (k : Tok) (t : Nat) :
    ((mqOffer M W k t false).2 = .dropped ∧ topUp M k.mx k.n k.stamp t < tokUnit W - (M : Int) * (nano : Int) ∧
      (mqOffer M W k t false).1.n = topUp M k.mx k.n k.stamp t) ∨
    ((mqOffer M W k t false).2 = .written (tokUnit W - topUp M k.mx k.n k.stamp t).toNat ∧
      tokUnit W - (M : Int) * (nano : Int) ≤ topUp M k.mx k.n k.stamp t ∧
      (mqOffer M W k t false).1.n = topUp M k.mx k.n k.stamp t - tokUnit W) := by
  unfold mqOffer topUp
  simp only [and_true]
  split
  · exact .inl ⟨rfl, ‹_›, rfl⟩
  · refine .inr ⟨?_, by omega, rfl⟩
    show MqOut.written _ = _
    congr 1; split <;> omega

/-- a write that is not dropped sleeps for at most one second (`u / M ≤ 10^9 ns`) -/
theorem mq_wait_le_1s (M W : Nat) (k : Tok) (t : Nat) (u : Nat)
    (h : (mqOffer M W k t false).2 = .written u) : u ≤ M * nano := by
  rcases mqOffer_n M W k t with ⟨h1, _⟩ | ⟨h1, h2, _⟩ <;> rw [h1] at h
  · cases h
  · rw [← MqOut.written.inj h, Int.toNat_le]; omega

/-- an over-budget write is dropped, never queued: dropped iff the topped-up level is below
    `1 - rate` tokens -/
theorem mq_drop_iff (M W : Nat) (k : Tok) (t : Nat) :
    (mqOffer M W k t false).2 = .dropped ↔
      min (k.n + (((t - k.stamp : Nat) : Int)) * (M : Int)) k.mx < tokUnit W - (M : Int) * (nano : Int) := by
  rcases mqOffer_n M W k t with ⟨h1, h2, _⟩ | ⟨h1, h2, _⟩
  · exact ⟨fun _ => h2, fun _ => h1⟩
  · rw [h1]; exact ⟨nofun, fun h => absurd h (Int.not_lt.2 h2)⟩

/-- the potential just before an offer at `t` is what the top-up leaves; a write takes a token from
    it, and leaves at most the one-second debt (a deeper one would have been dropped) -/
theorem mq_step (M W : Nat) (k : Tok) (t : Nat) :
    mphi M (mqOffer M W k t false).1 + (wrote (mqOffer M W k t false).2 : Int) * tokUnit W
      = topUp M k.mx k.n k.stamp t - (t : Int) * (M : Int) ∧
    (wrote (mqOffer M W k t false).2 ≠ 0 →
      -((M : Int) * (nano : Int)) - (t : Int) * (M : Int) ≤ mphi M (mqOffer M W k t false).1) := by
  unfold mphi
  rw [mqOffer_stamp]
  rcases mqOffer_n M W k t with ⟨h1, _, h2⟩ | ⟨h1, h2, h3⟩
  · -- dropped: nothing is written and the level is the topped-up one
    rw [h1, h2]
    simp only [wrote, Int.natCast_zero, Int.zero_mul]
    exact ⟨by omega, fun h => (h rfl).elim⟩
  · -- written: a token is taken from the topped-up level, which `h2` bounds from below
    rw [h1, h3]
    simp only [wrote, Int.natCast_one, Int.one_mul]
    exact ⟨by omega, fun _ => by omega⟩

/-- the same potential argument as `window_le_pot`: `Φ` bounds the potential the first offer (at `a`
    or later) finds; the last write by `e` leaves the potential at least `-(e*M + M*nano)`, and every
    write before it lowered the potential by a token -/
theorem mq_count_le (M W e : Nat) : ∀ (ts : List Nat) (k : Tok) (a : Nat) (Φ : Int), Ordered a ts →
    (∀ t ∈ ts, t ≤ e) → (∀ t, a ≤ t → topUp M k.mx k.n k.stamp t - (t : Int) * (M : Int) ≤ Φ) →
    (mqCount M W k ts : Int) * tokUnit W ≤ max 0 (Φ + ((e : Int) * (M : Int) + (M : Int) * (nano : Int)))
  | [], _, _, _, _, _, _ => by simp only [mqCount, Int.natCast_zero, Int.zero_mul]; omega
  | t :: ts, k, a, Φ, ⟨h1, h2⟩, he, hΦ => by
    obtain ⟨s1, s2⟩ := mq_step M W k t
    have hφ := hΦ t h1
    have hte := Nat.mul_le_mul_right M (he t (List.mem_cons_self ..))
    have ih := mq_count_le M W e ts _ t (mphi M (mqOffer M W k t false).1) h2
      (fun t' ht' => he t' (List.mem_cons_of_mem _ ht')) fun t' ht' => topUp_pot M _ _ (by rw [mqOffer_stamp]; exact ht')
    rw [mqCount]; push_cast; rw [Int.add_mul]
    refine pot_step (by omega) (fun hc => ?_) ih
    have := s2 (fun h0 => hc (by rw [h0]; simp))
    omega

/-- **MQTT allowance**: for a bucket state `k` reached in any way (forced writes included) and
    any later stretch of ordinary offers inside a window `(s, e]`, the number of frames written
    (not dropped) is at most the allowance for the window plus the bucket's cap plus the one-second
    debt: `count ≤ rate * (e - s) + max_tokens + rate` — in token units. -/
theorem mq_window_bound (M W : Nat) (k : Tok) (ts : List Nat) (s e : Nat) (hk : MWF k) (hmx : 0 ≤ k.mx)
    (hs : k.stamp ≤ s) (ho : Ordered s ts) (he : ∀ t ∈ ts, t ≤ e) (hse : s ≤ e) :
    (mqCount M W k ts : Int) * tokUnit W ≤ ((e - s : Nat) : Int) * (M : Int) + k.mx + (M : Int) * (nano : Int) := by
  -- from `s` on an offer finds at most a full bucket: the potential is at most `k.mx - s * M`
  have hΦ : ∀ t, s ≤ t → topUp M k.mx k.n k.stamp t - (t : Int) * (M : Int) ≤ k.mx - (s : Int) * M := by
    intro t hst
    have hcap := topUp_le_cap M k.mx k.n k.stamp t
    have hmul := Nat.mul_le_mul_right M hst
    omega
  have h := mq_count_le M W e ts k s (k.mx - (s : Int) * M) ho he hΦ
  have := Nat.mul_le_mul_right M hse
  have : (0 : Int) ≤ (M : Int) * (nano : Int) := Int.mul_nonneg (Int.natCast_nonneg _) (Int.natCast_nonneg _)
  rw [cast_sub_mul hse]; omega

/-- the fill rate is 1 % of the deemed 38 400 bit/s and the bucket holds 60 s worth -/
theorem repo_rate_is_one_percent : Gen.dutyFillRate * 100 = 38400 ∧
    Gen.dutyCapacity = Gen.dutyFillRate * 60 ∧ Gen.dutyWindow = 60 := by decide

theorem repo_mqtt_allowance : Gen.mqttMaxTokens = 80 ∧ Gen.mqttTimeWindow = 60 := by decide

/-- the property for the serial gateway with the constants of the code (level unit: nano-bits) -/
theorem duty_window_total_repo (pre post : List Req) (s e : Nat) (hse : s ≤ e)
    (hpre : ∀ r ∈ pre, r.t ≤ s) (hpost : ∀ r ∈ post, s < r.t)
    (ht : Timely Gen.dutyFillRate (Gen.dutyCapacity * nano) ⟨(Gen.dutyCapacity * nano : Nat), 0⟩ (pre ++ post)) :
    winZ s e (pre ++ post) ≤ (e - s) * Gen.dutyFillRate + Gen.dutyCapacity * nano
      + sumZ (pre.filter (pendingAt s)) :=
  duty_window_total _ _ pre post s e hse hpre hpost ht

/-- non-vacuity: a concrete timely history with a sleeper — 70 frames of 350 bits offered at once
    drain the bucket (65.8 frames) and the last ones wait -/
def burst : List Req := (List.range 70).map fun i =>
  ⟨1, 350 * nano, 1 + (if i < 65 then 0 else (i - 64) * 1000000000)⟩

example : (admitAll 384 (23040 * nano) ⟨(23040 * nano : Nat), 0⟩ burst).lvl < 0 := by decide +kernel

example : (semRun Sem.init [.arrive 1, .arrive 2, .tick, .arrive 3, .tick, .tick]).out = [1, 2, 3] := by decide +kernel

example : (mqOffer 80 60 ⟨-(70 * nano), 80 * 60 * nano, 0⟩ 5 false).2 = .dropped := by decide +kernel

/-- **a caller that gives up while it waits changes nothing for the others**: the wrapper debits the
    bucket at admission and never credits it back, so the due times of the callers that stay are a
    sub-list of a non-decreasing list - whichever callers give up, whenever, the frames that are
    written keep the order in which they were offered (`stay`: the due times of the callers that stay) -/
theorem dues_sorted_after_cancellations (R C : Nat) (rs : List Req) (b : Bucket) (h : Timely R C b rs)
    (stay : List Nat) (hs : stay.Sublist (dues R C b rs)) : stay.Pairwise (· ≤ ·) :=
  List.Pairwise.sublist hs (dues_sorted R C rs b h)

end Ramses.C11
