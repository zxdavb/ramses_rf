/-
  C04, second half — date-times, packed fault-log stamps and device ids: by argument, for every valid
  date (years 1–9999, leap days, DST bit) and the whole 24-bit id space.  Each decoder is first
  described on fields of any value that fit their widths (`hexToDtm_fields`, `hexToDts_fields`).
-/
import Ramses.Proofs.Fields
namespace Ramses.C04

theorem mkDateTime_valid (d : DateTime) (hv : d.valid = true) :
    mkDateTime d.year d.month d.day d.hour d.minute d.second = .ok d := if_pos hv

theorem hexFromDtm_nosecs (d : DateTime) (dst : Bool) :
    hexFromDtm (some d) dst false = fmtHex 2 d.minute ++ (fmtHex 2 d.hour ++ (fmtHex 2 d.day ++
      (fmtHex 2 d.month ++ fmtHex 4 d.year))) := by
  simp only [hexFromDtm, List.append_assoc, Bool.false_eq_true, if_false]

theorem hexFromDtm_nosecs_length (o : Option DateTime) (dst : Bool) (hv : ∀ d, o = some d → d.valid = true) :
    (hexFromDtm o dst false).length = 12 := by
  cases o with
  | none => rfl
  | some d =>
    obtain ⟨-, h2, -, h4, -, h6, h7, h8, -⟩ := valid_bounds d (hv d rfl)
    simp only [hexFromDtm_nosecs, List.length_append, fmtHex_byte, fmtHex_word, (by omega : d.minute < 256),
      (by omega : d.hour < 256), (by omega : d.day < 256), (by omega : d.month < 256), (by omega : d.year < 65536)]

/-- the 14-character stamp is the seconds byte (bit 7: DST) before the 12-character one -/
theorem hexFromDtm_secs (d : DateTime) (dst : Bool) (h : d.second < 128) :
    hexFromDtm (some d) dst true =
      fmtHex 2 (if dst then d.second + 128 else d.second) ++ hexFromDtm (some d) dst false := by
  have : ¬ d.second / 128 % 2 = 1 := by omega
  simp only [hexFromDtm, this, if_false, if_true, Bool.false_eq_true]

theorem hexToDtm_fields (sec mi hr dd mo yy : Nat) (hs : sec < 256) (hmi : mi < 256) (hhr : hr < 256)
    (hdd : dd < 256) (hmo : mo < 255) (hyy : yy < 65536) :
    hexToDtm (fmtHex 2 sec ++ (fmtHex 2 mi ++ (fmtHex 2 hr ++ (fmtHex 2 dd ++ (fmtHex 2 mo ++ fmtHex 4 yy))))) =
      (mkDateTime yy mo dd (hr % 32) mi (sec % 128)).map some := by
  have hmo' : mo < 256 := by omega
  have hlen : (fmtHex 2 sec ++ (fmtHex 2 mi ++ (fmtHex 2 hr ++ (fmtHex 2 dd ++ (fmtHex 2 mo ++ fmtHex 4 yy))))).length
      = 14 := by
    simp only [List.length_append, fmtHex_byte, fmtHex_word, hs, hmi, hhr, hdd, hmo', hyy]
  -- not the all-FF sentinel: its month byte is 255
  have hnf : (fmtHex 2 sec ++ (fmtHex 2 mi ++ (fmtHex 2 hr ++ (fmtHex 2 dd ++ (fmtHex 2 mo ++ fmtHex 4 yy))))).drop (14 - 12)
      ≠ "FFFFFFFFFFFF".toList := by
    rw [List.drop_left' (fmtHex_byte sec hs)]
    intro he
    have m := fieldsAt (a := 0) [fmtHex 2 mi, fmtHex 2 hr, fmtHex 2 dd, fmtHex 2 mo] he.symm
    simp only [FieldsAt, fmtHex_byte, hmi, hhr, hdd, hmo', Nat.reduceAdd] at m
    exact absurd m.2.2.2.1.symm (fmtHex_ne (m := 255) (by decide) (by omega))
  unfold hexToDtm
  rw [hlen, if_neg (by decide), if_neg hnf, if_neg (by decide)]
  simp only [takeHex_byte, hs, hmi, hhr, hdd, hmo']
  rw [← List.append_nil (fmtHex 4 yy), takeHex_word yy [] hyy]

/-- a 12-character stamp is read as the 14-character one with a zero seconds byte -/
theorem hexToDtm_pad (s : List Char) (h : s.length = 12) : hexToDtm s = hexToDtm (fmtHex 2 0 ++ s) := by
  have h14 : (fmtHex 2 0 ++ s).length = 14 := by rw [List.length_append, h]; rfl
  unfold hexToDtm
  rw [h14, h]
  rfl

theorem dtm_roundtrip_secs (d : DateTime) (hv : d.valid = true) (dst : Bool) :
    hexToDtm (hexFromDtm (some d) dst true) = .ok (some d) := by
  obtain ⟨-, h2, -, h4, -, h6, h7, h8, h9⟩ := valid_bounds d hv
  rw [hexFromDtm_secs d dst (by omega), hexFromDtm_nosecs,
    hexToDtm_fields _ _ _ _ _ _ (by split <;> omega) (by omega) (by omega) (by omega) (by omega) (by omega)]
  have hs : (if dst = true then d.second + 128 else d.second) % 128 = d.second := by split <;> omega
  rw [hs, Nat.mod_eq_of_lt (by omega : d.hour < 32), mkDateTime_valid d hv]
  rfl

/-- the 14-character stamp of a date at second 0 is a zero byte before the 12-character one (which does
    not look at the seconds) -/
theorem hexFromDtm_zero_sec (d : DateTime) :
    hexFromDtm (some { d with second := 0 }) false true = fmtHex 2 0 ++ hexFromDtm (some d) false false := by
  rw [hexFromDtm_secs _ false (Nat.zero_lt_succ 127), hexFromDtm_nosecs, hexFromDtm_nosecs d]
  rfl

/-- the 12-character form (no seconds byte) is the `until` of a mode command: it is read as the
    14-character stamp of the same date at second 0, so this is `dtm_roundtrip_secs` for that date -/
theorem dtm_roundtrip_nosecs (d : DateTime) (hv : d.valid = true) :
    hexToDtm (hexFromDtm (some d) false false) = .ok (some { d with second := 0 }) := by
  have hv0 : ({ d with second := 0 } : DateTime).valid = true := by
    obtain ⟨a1, a2, a3, a4, a5, a6, a7, a8, _⟩ := (valid_iff d).1 hv
    exact (valid_iff _).2 ⟨a1, a2, a3, a4, a5, a6, a7, a8, (by decide : 0 < 60)⟩
  rw [hexToDtm_pad _ (hexFromDtm_nosecs_length (some d) false fun _ e => Option.some.inj e ▸ hv), ← hexFromDtm_zero_sec]
  exact dtm_roundtrip_secs _ hv0 false

/-- a packed word is a multiple of 128, so never the sentinel -/
theorem hexToDts_fields (y mo dd hh mi ss : Nat) (hy : y < 128) (hmo : mo < 16) (hdd : dd < 32) (hhh : hh < 32)
    (hmi : mi < 64) (hss : ss < 64) :
    hexToDts (fmtHex 12 (y * 2 ^ 24 + mo * 2 ^ 36 + dd * 2 ^ 31 + hh * 2 ^ 19 + mi * 2 ^ 13 + ss * 2 ^ 7)) =
      (mkDateTime (2000 + y) mo dd hh mi ss).map some := by
  generalize hx : y * 2 ^ 24 + mo * 2 ^ 36 + dd * 2 ^ 31 + hh * 2 ^ 19 + mi * 2 ^ 13 + ss * 2 ^ 7 = x
  unfold hexToDts
  rw [if_neg (not_not_intro (fmtHex_length 12 x)), if_neg (fmtHex_ne (m := 0x7F) (by decide) (by omega)),
    ofHex_fmtHex 12 x]
  simp only
  rw [(by omega : x / 2 ^ 24 % 128 = y), (by omega : x / 2 ^ 36 % 16 = mo), (by omega : x / 2 ^ 31 % 32 = dd),
    (by omega : x / 2 ^ 19 % 32 = hh), (by omega : x / 2 ^ 13 % 64 = mi), (by omega : x / 2 ^ 7 % 64 = ss)]

/-- packed fault-log timestamps: every second of the century 2000–2099 (the window of the
    library's two-digit-year text form), symbolically -/
theorem dts_roundtrip (d : DateTime) (hv : d.valid = true) (hy0 : 2000 ≤ d.year) (hy : d.year ≤ 2099) :
    hexToDts (hexFromDts (some d)) = .ok (some d) := by
  obtain ⟨-, -, -, h4, -, h6, h7, h8, h9⟩ := valid_bounds d hv
  unfold hexFromDts
  rw [hexToDts_fields _ _ _ _ _ _ (by omega) (by omega) (by omega) (by omega) (by omega) (by omega),
    (by omega : 2000 + d.year % 100 = d.year), mkDateTime_valid d hv]
  rfl

theorem id_enc_dec (t n : Nat) (ht : t ≤ 63) (hn : n < 2 ^ 18) (hne : ¬ (t = 63 ∧ n = 262142)) :
    hexIdToDevId (devIdToHexId t n) = .ok (.dev t n) := by
  unfold devIdToHexId hexIdToDevId
  rw [if_neg (fmtHex_ne (m := 0xFFFFFE) (by decide) (by omega)), if_neg (fmtHex_strip 5 _), ofHex_fmtHex 6 _]
  simp only
  rw [(by omega : (t * 2 ^ 18 + n) / 2 ^ 18 % 64 = t), (by omega : (t * 2 ^ 18 + n) % 2 ^ 18 = n)]

theorem id_dec_enc (h : Nat) (hh : h < 2 ^ 24) :
    ∃ t n, t ≤ 63 ∧ n < 2 ^ 18 ∧ hexIdToDevId (fmtHex 6 h) = .ok (.dev t n) ∧
      devIdToHexId t n = fmtHex 6 h := by
  have e : h / 2 ^ 18 % 64 * 2 ^ 18 + h % 2 ^ 18 = h := by omega
  have henc : devIdToHexId (h / 2 ^ 18 % 64) (h % 2 ^ 18) = fmtHex 6 h := congrArg (fmtHex 6) e
  refine ⟨_, _, by omega, by omega, ?_, henc⟩
  by_cases hs : h = 0xFFFFFE
  · subst hs; decide
  · rw [← henc]
    exact id_enc_dec _ _ (by omega) (by omega) (by omega)

/-- the all-devices id and the null id -/
theorem id_specials :
    hexIdToDevId "FFFFFE".toList = .ok (.dev 63 262142) ∧ devIdToHexId 63 262142 = "FFFFFE".toList ∧
    hexIdToDevId "      ".toList = .ok .non := by decide +kernel

/-- non-vacuity: a real date, with and without DST; a real id -/
example : hexFromDtm (some ⟨2024, 2, 29, 23, 59, 58⟩) true true = "BA3B171D0207E8".toList ∧
    hexToDtm "BA3B171D0207E8".toList = .ok (some ⟨2024, 2, 29, 23, 59, 58⟩) ∧
    hexIdToDevId "06368E".toList = .ok (.dev 1 145038) ∧ devIdToHexId 1 145038 = "06368E".toList := by
  decide +kernel

end Ramses.C04
