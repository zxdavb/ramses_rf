/-
  C15 — structural consistency of the topology under `set_parent`, for arbitrary device ids,
  controllers, zone indexes, child ids and call sequences.

  That the reported schema passes the library's validator and reloads to itself is decided on the
  implementation by the per-run search (DESIGN.md §3 C15: partial).
-/
import Ramses.Model.Topo
namespace Ramses.C15
open Ramses.Topo

theorem lookupDev_setDev (t : Topo) (d : String) (old new : Dev) (h : lookupDev t d = some old) :
    lookupDev (setDev t d new) d = some new := by
  unfold lookupDev setDev at *
  revert h
  generalize t.devs = l
  induction l with
  | nil => nofun
  | cons e es ih =>
    rw [List.map_cons, List.find?_cons, List.find?_cons]
    by_cases h1 : e.1 = d
    · simp only [h1, if_true, decide_true, Option.map_some, implies_true]
    · simp only [h1, if_false, decide_false]
      exact ih

theorem rerr_ne_ok (r : RErr) : r.res ≠ .ok := by cases r <;> nofun

theorem checks_ne_ok (dev : Dev) (p : Par) (cid : Option String) (s : Bool) : checks dev p cid s ≠ some .ok := by
  fun_cases checks dev p cid s <;> nofun

theorem addChild_devs (t : Topo) (p : Par) (d : String) (k : Kind) (cid : String) (s : Bool) :
    (addChild t p d k cid s).1.devs = t.devs ∧ (addChild t p d k cid s).1.maxZones = t.maxZones ∧
    (addChild t p d k cid s).1.zones = t.zones := ⟨rfl, rfl, rfl⟩

theorem lookupDev_congr {t t' : Topo} (h : t'.devs = t.devs) (d : String) : lookupDev t' d = lookupDev t d := by
  unfold lookupDev; rw [h]

/-- every way a call can end: refused with nothing touched; or the device is known and the parent
    resolved, and the call ends on a `t2` that differs from `t` in the zones / DHW zones `resolve`
    made and in the role slots only - either refused there, or accepted, with the device's record
    rewritten.  The cases are the leaves of `setParent`, top to bottom. -/
theorem setParent_cases (t : Topo) (d : String) (req : Req) (cid : Option String) (s : Bool) :
    ((setParent t d req cid s).2 ≠ .ok ∧ (setParent t d req cid s).1 = t) ∨
    ∃ dev rs t2, lookupDev t d = some dev ∧ resolve t dev.kind req cid = .ok rs ∧
      t2.devs = t.devs ∧ t2.maxZones = t.maxZones ∧ t2.zones = rs.zones ∧
      (((setParent t d req cid s).2 ≠ .ok ∧ (setParent t d req cid s).1 = t2) ∨
       ∃ p, rs.par = some p ∧ ¬ (dev.parent.isSome ∧ dev.parent ≠ rs.par) ∧
         setParent t d req cid s = (setDev t2 d { dev with parent := some p, childId := rs.cid, ctl := some p.ctlOf,
                                                           tcs := some (tcsPtr t2 p.ctlOf) }, .ok)) := by
  fun_cases setParent t d req cid s
  -- in every arm `hd : lookupDev t d = some dev`, `hr : resolve .. = .ok rs`, and `t1` is
  -- `withResolved t rs`, which has `t`'s devices and maximum and `rs`'s zones by definition
  case case1 =>  -- the device is unknown
    exact .inl ⟨nofun, rfl⟩
  case case2 r _ =>  -- `resolve` refuses
    exact .inl ⟨rerr_ne_ok r, rfl⟩
  -- "cant change parent"; not a valid parent
  case case3 dev hd rs hr t1 _ | case4 dev hd rs hr t1 _ _ =>
    exact .inr ⟨dev, rs, t1, hd, hr, rfl, rfl, rfl, .inl ⟨nofun, rfl⟩⟩
  case case5 dev hd rs hr t1 _ p _ r hc =>  -- `hc : checks dev p rs.cid s = some r`
    have hne : r ≠ .ok := fun e => checks_ne_ok dev p rs.cid s (e ▸ hc)
    exact .inr ⟨dev, rs, t1, hd, hr, rfl, rfl, rfl, .inl ⟨hne, rfl⟩⟩
  -- the last two leaves: by `ha`, `addChild t1 ..` answered `(t2, _)`, so `t2` is `t1` but for the role slots
  case case6 dev hd rs hr t1 hmove p hp _ t2 ha =>  -- accepted, `hmove` the failed "cant change parent" test
    have hsame := addChild_devs t1 p d dev.kind (rs.cid.getD "") s
    rw [ha] at hsame
    obtain ⟨hdv, hmz, hzs⟩ := hsame
    exact .inr ⟨dev, rs, t2, hd, hr, hdv, hmz, hzs, .inr ⟨p, hp, hmove, rfl⟩⟩
  case case7 dev hd rs hr t1 _ p _ _ t2 r hne ha =>  -- refused with `r`
    have hsame := addChild_devs t1 p d dev.kind (rs.cid.getD "") s
    rw [ha] at hsame
    obtain ⟨hdv, hmz, hzs⟩ := hsame
    exact .inr ⟨dev, rs, t2, hd, hr, hdv, hmz, hzs, .inl ⟨hne, rfl⟩⟩

/-- **No call can move a device to a different parent**: whenever `set_parent` succeeds, the device
    either had no parent before or has the very same parent afterwards. -/
theorem parent_never_moves (t : Topo) (d : String) (req : Req) (cid : Option String) (s : Bool)
    (hok : (setParent t d req cid s).2 = .ok) :
    parentOf t d = none ∨ parentOf (setParent t d req cid s).1 d = parentOf t d := by
  obtain ⟨hbad, _⟩ | ⟨dev, rs, t2, hd, _, hdv, _, _, ⟨hbad, _⟩ | ⟨p, hp, hmove, hres⟩⟩ :=
    setParent_cases t d req cid s
  · exact absurd hok hbad
  · exact absurd hok hbad
  · rw [hres]
    unfold parentOf
    rw [lookupDev_setDev t2 d dev _ ((lookupDev_congr hdv d).trans hd), hd]
    simp only [Option.bind_some]
    cases hq : dev.parent with
    | none => left; rfl
    | some q =>
      right
      rw [hq, hp] at hmove
      simp only [Option.isSome_some, true_and, ne_eq, Decidable.not_not] at hmove
      exact hmove.symm

/-- ... and likewise its controller -/
theorem ctl_set_to_parents (t : Topo) (d : String) (req : Req) (cid : Option String) (s : Bool)
    (hok : (setParent t d req cid s).2 = .ok) :
    ∃ p, parentOf (setParent t d req cid s).1 d = some p ∧ ctlOfDev (setParent t d req cid s).1 d = some p.ctlOf := by
  obtain ⟨hbad, _⟩ | ⟨dev, rs, t2, hd, _, hdv, _, _, ⟨hbad, _⟩ | ⟨p, _, _, hres⟩⟩ :=
    setParent_cases t d req cid s
  · exact absurd hok hbad
  · exact absurd hok hbad
  · rw [hres]
    unfold parentOf ctlOfDev
    rw [lookupDev_setDev t2 d dev _ ((lookupDev_congr hdv d).trans hd)]
    exact ⟨p, rfl, rfl⟩

/-- an attempt to give a device that already has a parent another one is refused with
    `SystemSchemaInconsistent` (whatever else is wrong with the call): the inconsistency is reported -/
theorem move_is_reported (t : Topo) (d : String) (dev : Dev) (req : Req) (cid : Option String) (s : Bool)
    (rs : Resolved) (q : Par)
    (hd : lookupDev t d = some dev) (hr : resolve t dev.kind req cid = .ok rs)
    (hp : dev.parent = some q) (hne : rs.par ≠ some q) :
    (setParent t d req cid s).2 = .inconsistent := by
  unfold setParent
  simp only [hd, hr]
  rw [if_pos (hp ▸ ⟨rfl, fun h => hne h.symm⟩)]

/-- a refused call changes no device's parent, child id or controller -/
theorem refused_changes_no_device (t : Topo) (d : String) (req : Req) (cid : Option String) (s : Bool)
    (hbad : (setParent t d req cid s).2 ≠ .ok) : (setParent t d req cid s).1.devs = t.devs := by
  obtain ⟨_, h⟩ | ⟨dev, rs, t2, _, _, hdv, _, _, ⟨_, h⟩ | ⟨p, _, _, hres⟩⟩ :=
    setParent_cases t d req cid s
  · rw [h]
  · rw [h, hdv]
  · rw [hres] at hbad; exact absurd rfl hbad

/-- zone indexes stay below the configured maximum -/
def ZonesOk (t : Topo) : Prop := ∀ z ∈ t.zones, ∃ n, hexVal z.2 = some n ∧ n < t.maxZones

theorem mem_addIfAbsent {α} [BEq α] {l : List α} {x z : α} (h : z ∈ addIfAbsent l x) : z = x ∨ z ∈ l := by
  unfold addIfAbsent at h
  split at h
  · exact .inr h
  · exact List.mem_cons.1 h

theorem resolveTcs_zones (t : Topo) (c : String) (cid : Option String) (rs : Resolved)
    (h : resolveTcs t c cid = .ok rs) (hz : ZonesOk t) :
    ∀ z ∈ rs.zones, ∃ n, hexVal z.2 = some n ∧ n < t.maxZones := by
  revert h
  fun_cases resolveTcs t c cid <;> intro h <;> cases h
  -- the one leaf that makes a zone: its index has just been read as `n < t.maxZones`
  case case3 n hn hlt =>
    intro z hzm
    rcases mem_addIfAbsent hzm with rfl | hm
    · exact ⟨n, hn, hlt⟩
    · exact hz z hm
  all_goals exact hz

theorem resolve_zones (t : Topo) (k : Kind) (req : Req) (cid : Option String) (rs : Resolved)
    (h : resolve t k req cid = .ok rs) (hz : ZonesOk t) :
    ∀ z ∈ rs.zones, ∃ n, hexVal z.2 = some n ∧ n < t.maxZones := by
  revert h
  fun_cases resolve t k req cid <;> intro h
  case case1 | case2 => exact resolveTcs_zones t _ _ rs h hz
  all_goals cases h <;> exact hz

/-- **zone indexes never reach the configured maximum**, whatever is called (a zone is only ever
    created by `resolve`, and only for `int(child_id, 16) < max_zones`) -/
theorem zonesOk_preserved (t : Topo) (d : String) (req : Req) (cid : Option String) (s : Bool) (hz : ZonesOk t) :
    ZonesOk (setParent t d req cid s).1 := by
  obtain ⟨_, h⟩ | ⟨dev, rs, t2, _, hr, _, hm, hzz, h⟩ := setParent_cases t d req cid s
  · rw [h]; exact hz
  · have h2 : ZonesOk t2 := fun z hzm => hm ▸ resolve_zones t dev.kind req cid rs hr hz z (hzz ▸ hzm)
    obtain ⟨_, h⟩ | ⟨p, _, _, hres⟩ := h
    · rw [h]; exact h2
    · rw [hres]; exact h2

/-- a recorded finding: a controller named as the sensor of another controller's zone has its own
    `.tcs` re-pointed at that other system; a later `parent=<this controller>` then resolves to the
    other controller's system -/
theorem controller_hijack_witness :
    let t0 : Topo := ⟨12, [("01:223036", ⟨.ctl, none, none, none, some "01:223036"⟩),
                          ("04:000001", ⟨.trv, none, none, none, none⟩)], [], [], ⟨[], [], [], [], [], []⟩⟩
    let t1 := (setParent t0 "01:223036" (.ctlDev "01:145038") (some "0B") true).1
    tcsPtr t0 "01:223036" = "01:223036" ∧ tcsPtr t1 "01:223036" = "01:145038" ∧
      parentOf (setParent t1 "04:000001" (.ctlDev "01:223036") (some "01") false).1 "04:000001"
        = some (.zone "01:145038" "01") := by decide +kernel

/-- non-vacuity: a TRV is bound to zone 01 of one controller; binding it to zone 02, or to the
    other controller, is refused and reported; a second sensor for the zone is refused too -/
example :
    let t0 : Topo := ⟨12, [("04:000001", ⟨.trv, none, none, none, none⟩), ("34:000001", ⟨.thm, none, none, none, none⟩),
                          ("34:000002", ⟨.thm, none, none, none, none⟩)], [], [], ⟨[], [], [], [], [], []⟩⟩
    (runCalls t0 [⟨"04:000001", .ctlDev "01:145038", some "01", false⟩,
                  ⟨"04:000001", .ctlDev "01:145038", some "02", false⟩,
                  ⟨"04:000001", .ctlDev "01:223036", some "01", false⟩,
                  ⟨"34:000001", .ctlDev "01:145038", some "01", true⟩,
                  ⟨"34:000002", .ctlDev "01:145038", some "01", true⟩]).2
      = [.ok, .inconsistent, .inconsistent, .ok, .inconsistent] := by decide +kernel

end Ramses.C15
