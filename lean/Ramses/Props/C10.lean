/-
  C10 — device filters are sound and complete: blocked never passes, allowed never drops.
  Ids are arbitrary strings, lists arbitrary: pure decision logic.
-/
import Ramses.Model.Filter
namespace Ramses.C10

/-- is `id` allowed by the known-list rule (when it is enforced)? -/
def allowed (c : FCfg) (sending : Bool) (id : DevIdT) : Bool :=
  c.active = some id || c.include.contains id || (sending && id = hgiId)

/-- one id survives the loop body of `_is_wanted_addrs` iff it is not block-listed and, when the known
    list is enforced, allowed -/
theorem wantedOne_ok_iff (c : FCfg) (sending : Bool) (id : DevIdT) :
    wantedOne c sending id ≠ some false ↔
      (c.exclude.contains id = false ∧ (c.enforce = true → allowed c sending id = true)) := by
  unfold wantedOne allowed
  cases c.exclude.contains id
  · by_cases h1 : c.active = some id
    · simp [h1]
    · cases c.include.contains id <;> cases (sending && decide (id = hgiId)) <;> cases c.enforce <;> simp [h1]
  · simp

/-- the duplicate removal of `dict.fromkeys` changes nothing: both ids are checked -/
theorem isWanted_eq_and (c : FCfg) (src dst : DevIdT) (sending : Bool) :
    isWanted c src dst sending = true ↔
      wantedOne c sending src ≠ some false ∧ wantedOne c sending dst ≠ some false := by
  unfold isWanted
  split
  · next h => subst h; simp
  · simp

/-- **complete characterisation** of the filter decision, for receive and for send -/
theorem isWanted_iff (c : FCfg) (src dst : DevIdT) (sending : Bool) :
    isWanted c src dst sending = true ↔
      (c.exclude.contains src = false ∧ c.exclude.contains dst = false ∧
       (c.enforce = true → allowed c sending src = true ∧ allowed c sending dst = true)) := by
  rw [isWanted_eq_and, wantedOne_ok_iff, wantedOne_ok_iff]
  exact ⟨fun ⟨⟨a, p⟩, b, q⟩ => ⟨a, b, fun e => ⟨p e, q e⟩⟩,
    fun ⟨a, b, pq⟩ => ⟨⟨a, fun e => (pq e).1⟩, b, fun e => (pq e).2⟩⟩

/-- **blocked never passes**: a block-listed source or destination is always filtered out,
    on receive and on send, whatever the other lists say -/
theorem block_sound (c : FCfg) (src dst : DevIdT) (sending : Bool)
    (h : c.exclude.contains src = true ∨ c.exclude.contains dst = true) :
    isWanted c src dst sending = false :=
  Bool.eq_false_iff.2 fun hw => by
    obtain ⟨a, b, _⟩ := (isWanted_iff c src dst sending).1 hw
    rcases h with h | h
    · rw [a] at h; cases h
    · rw [b] at h; cases h

/-- **an enforced known list is sound**: an id that is neither listed, nor the active gateway,
    nor a broadcast/null address (nor, when sending, the 18:000730 placeholder) is filtered out -/
theorem known_sound (c : FCfg) (src dst id : DevIdT) (sending : Bool) (he : c.enforce = true)
    (hid : id = src ∨ id = dst) (hn : allowed c sending id = false) :
    isWanted c src dst sending = false :=
  Bool.eq_false_iff.2 fun hw => by
    obtain ⟨a, b⟩ := ((isWanted_iff c src dst sending).1 hw).2.2 he
    rcases hid with h | h <;> subst h
    · rw [a] at hn; cases hn
    · rw [b] at hn; cases hn

/-- **allowed never drops**: if neither address is block-listed and (when the known list is
    enforced) both are allowed, the packet/command passes -/
theorem complete (c : FCfg) (src dst : DevIdT) (sending : Bool)
    (h1 : c.exclude.contains src = false) (h2 : c.exclude.contains dst = false)
    (h3 : c.enforce = true → allowed c sending src = true ∧ allowed c sending dst = true) :
    isWanted c src dst sending = true :=
  (isWanted_iff c src dst sending).2 ⟨h1, h2, h3⟩

/-- a block-listed gateway id is never adopted as the active gateway -/
theorem blocked_gateway_not_active (c : FCfg) (id : DevIdT) (h : c.exclude.contains id = true) :
    (setActiveHgi c id).active = c.active := by
  unfold setActiveHgi; simp_all

/-- the active gateway after the connection is made is what the transport identified - unless that
    id is block-listed - and nothing else -/
theorem connectionMade_active (c : FCfg) (r : Option DevIdT) :
    (connectionMade c r).active =
      (match r with
       | none => c.active
       | some id => if c.exclude.contains id then c.active else some id) := by
  cases r with
  | none => rfl
  | some id => simp only [connectionMade, setActiveHgi]; split <;> rfl

/-- ... so a stick that was never identified earns no exemption: with the known list enforced, a
    packet from the 18:000730 placeholder (or from any other unlisted id) is still filtered out on
    receipt -/
theorem unidentified_gateway_not_exempt (excl known : List DevIdT) (src dst : DevIdT)
    (hk : (known ++ [allId, nonId]).contains src = false) :
    isWanted (connectionMade ⟨excl, known, true, none⟩ none) src dst false = false :=
  known_sound _ src dst src false rfl (.inl rfl) (by simp only [allowed, connectionMade, FCfg.include, hk]; simp)

/-- no device object for a block-listed id (other than the gateway's own id) -/
theorem no_device_for_blocked (c : FCfg) (unwanted : List DevIdT) (hgi : DevIdT) (gd : Option DevIdT)
    (id : DevIdT) (hb : c.exclude.contains id = true) (hne : id ≠ hgi) :
    canCreateDevice c unwanted hgi gd id = false := by
  unfold canCreateDevice; simp_all

/-- with the known list enforced, no device object for an unlisted id (other than the gateway) -/
theorem no_device_for_unlisted (c : FCfg) (unwanted : List DevIdT) (hgi : DevIdT) (gd : Option DevIdT)
    (id : DevIdT) (he : c.enforce = true) (hk : c.known.contains id = false) (hg : gd ≠ some id)
    (hne : id ≠ hgi) : canCreateDevice c unwanted hgi gd id = false := by
  unfold canCreateDevice; simp_all

/-- non-vacuity -/
example :
    let c : FCfg := ⟨["13:444444".toList], ["01:111111".toList], true, some "18:006402".toList⟩
    isWanted c "01:111111".toList "18:006402".toList false = true ∧
    isWanted c "01:111111".toList "13:444444".toList false = false ∧
    isWanted c "01:333333".toList "01:111111".toList false = false ∧
    isWanted c "18:000730".toList "01:111111".toList true = true ∧
    isWanted c "18:000730".toList "01:111111".toList false = false := by decide +kernel

end Ramses.C10
