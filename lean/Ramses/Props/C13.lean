/-
  C13 — no traffic can break the gateway: the engine keeps running.

  The theorems cover the engine's running state under snapshot / restore (any number of them, each
  succeeding or failing); that the *views* never raise is decided on the implementation by the
  search (DESIGN.md §3 C13: partial).
-/
import Ramses.Model.Engine
namespace Ramses.C13
open Ramses.Eng

theorem pause_running (e : Eng) (h : Running e) :
    pause e = ({ saved := some ⟨e.handler, e.disableSending, e.disableDiscovery⟩, handler := false,
                 disableSending := true, disableDiscovery := true, reading := false, writePaused := true,
                 locked := false }, .ok) := by
  unfold pause; simp only [h.1, h.2.2.2.2, Bool.false_eq_true, if_false]

theorem guarded_running (e : Eng) (raises : Bool) (h : Running e) :
    guarded raises e = ({ e with writePaused := if e.disableSending then true else e.writePaused },
      if raises then .raised else .ok) := by
  unfold guarded
  rw [pause_running e h]
  obtain ⟨h1, h2, h3, h4, h5⟩ := h
  cases e with
  | mk saved handler ds dd rd wp lk =>
    subst h1 h2 h3 h5
    cases ds <;> simp_all [resume]

/-- a listen-only engine (sending disabled) is preserved too, except that its (unused) write side
    is left paused -/
theorem guarded_preserves_readonly (e : Eng) (raises : Bool) (h : Running e) :
    (guarded raises e).1 = { e with writePaused := if e.disableSending then true else e.writePaused } := by
  rw [guarded_running e raises h]

/-- **Taking a snapshot or restoring one leaves the engine exactly as before, whether or not the
    operation itself succeeded** -/
theorem guarded_preserves (e : Eng) (raises : Bool) (h : Running e)
    (hro : e.disableSending = true → e.writePaused = true) : (guarded raises e).1 = e := by
  rw [guarded_preserves_readonly e raises h]
  cases e with
  | mk saved handler ds dd rd wp lk => cases ds <;> simp_all

theorem guarded_result (e : Eng) (raises : Bool) (h : Running e) :
    (guarded raises e).2 = if raises then .raised else .ok := by
  rw [guarded_running e raises h]

/-- any sequence of snapshot / restore operations, each failing or not, leaves a running engine
    running and unchanged -/
theorem any_sequence_preserves (bs : List Bool) : ∀ (e : Eng), Running e →
    (e.disableSending = true → e.writePaused = true) → runOps e bs = e := by
  intro e h hro
  induction bs with
  | nil => rfl
  | cons b bs ih => rw [runOps, guarded_preserves e b h hro, ih]

/-- an operation attempted while the engine is already paused is refused and changes nothing -/
theorem nested_refused (e : Eng) (raises : Bool) (s : Saved) (h : e.saved = some s) :
    guarded raises e = (e, .runtimeError) := by
  unfold guarded pause
  split <;> simp_all

theorem nested_fold (p : Eng) (s : Saved) (hs : p.saved = some s) : ∀ (ns : List Bool) (acc : List Res),
    ns.foldl (fun (acc : Eng × List Res) b => ((guarded b acc.1).1, acc.2 ++ [(guarded b acc.1).2])) (p, acc)
      = (p, acc ++ ns.map (fun _ => Res.runtimeError))
  | [], acc => by simp
  | b :: bs, acc => by
    rw [List.foldl_cons, nested_refused p b s hs, nested_fold p s hs bs _]; simp

theorem guardedWithNested_eq (e : Eng) (raises : Bool) (nested : List Bool) (h : Running e) :
    guardedWithNested raises nested e =
      ((guarded raises e).1, (guarded raises e).2, nested.map (fun _ => Res.runtimeError)) := by
  unfold guardedWithNested
  rw [pause_running e h]
  simp only
  rw [nested_fold _ _ rfl nested []]
  unfold guarded
  rw [pause_running e h]
  rfl

/-- **snapshot / restore attempts made while another one is in progress** (any number, failing or
    not) are each refused, change nothing, and the operation in progress still ends with the engine
    exactly as before -/
theorem nested_attempts_harmless (e : Eng) (raises : Bool) (nested : List Bool) (h : Running e)
    (hro : e.disableSending = true → e.writePaused = true) :
    (guardedWithNested raises nested e).1 = e ∧
    (guardedWithNested raises nested e).2.2 = nested.map (fun _ => Res.runtimeError) := by
  rw [guardedWithNested_eq e raises nested h]
  exact ⟨guarded_preserves e raises h hro, rfl⟩

/-- why the `finally` matters: without it one failing snapshot leaves the handler removed, sending
    disabled and the engine marked paused — and every later snapshot is refused -/
def e0 : Eng := ⟨none, true, false, false, true, false, false⟩

theorem unguarded_breaks :
    Running e0 ∧ (unguarded true e0).1.handler = false ∧ (unguarded true e0).1.disableSending = true ∧
      (unguarded false (unguarded true e0).1).2 = .runtimeError := by
  refine ⟨by simp [Running, e0], rfl, rfl, rfl⟩

example : Running ⟨none, true, false, false, true, false, false⟩ := unguarded_breaks.1

end Ramses.C13
