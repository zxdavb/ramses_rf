/-
  C02 — frame text round-trips: parse then print is the identity (the packet-log clause is in C02Log.lean).

  `parseFrame` / `printFrame` / `parseCommand` / `fromAttrs` are the executable models of
  Frame.__init__, Frame.__repr__, Command.__init__ and Command._from_attrs (Model/Frame.lean).
  All statements are for unbounded strings / all field values.
-/
import Ramses.Model.Frame
import Ramses.Proofs.ListLemmas
import Ramses.Proofs.PyLemmas
import Ramses.Proofs.Fields
namespace Ramses.C02

/-- `Frame.__init__` accepts a text iff it has the shape, its address set is legal and its length field
    is the payload's byte count; the frame is then the text's fields by position -/
theorem parseFrame_ok {s : List Char} {f : Frame} : parseFrame s = .ok f ↔
    isFrameShape s = true ∧ (∃ r, pktAddrs (frameFields s).a0 (frameFields s).a1 (frameFields s).a2 = .ok r) ∧
    (frameFields s).payload.length = pyIntDigits (frameFields s).len * 2 ∧ frameFields s = f := by
  unfold parseFrame
  constructor
  · intro h
    obtain ⟨hs, h⟩ := of_check_ok h
    split at h
    · cases h
    · next r hr =>
      obtain ⟨hl, h⟩ := of_check_ok h
      exact ⟨hs, ⟨r, hr⟩, hl, Except.ok.inj h⟩
  · rintro ⟨hs, ⟨r, hr⟩, hl, rfl⟩
    rw [if_neg (not_not_intro hs), hr]
    exact if_neg (not_not_intro hl)

theorem payloadShape {p : List Char} (h : isPayloadShape p = true) :
    2 ≤ p.length ∧ p.length ≤ 96 ∧ p.length % 2 = 0 ∧ allB isUpperHex p = true := by
  simpa only [isPayloadShape, Bool.and_eq_true, decide_eq_true_eq, and_assoc] using h

theorem core_shape {s : List Char} (h : isFrameShapeCore s = true) :
    slice s 2 3 = [' '] ∧ slice s 6 7 = [' '] ∧ slice s 16 17 = [' '] ∧ slice s 26 27 = [' '] ∧
    slice s 36 37 = [' '] ∧ slice s 41 42 = [' '] ∧ slice s 45 46 = [' '] ∧ isPayloadShape (s.drop 46) = true := by
  simp only [isFrameShapeCore, Bool.and_eq_true, decide_eq_true_eq, and_assoc] at h
  obtain ⟨_, h2, _, h6, _, h16, _, h26, _, h36, _, _, h41, _, _, h45, hp⟩ := h
  exact ⟨h2, h6, h16, h26, h36, h41, h45, hp⟩

theorem validAddr_len {a : List Char} (h : isValidAddr a = true) : a.length = 9 := by
  unfold isValidAddr at h
  simp only [Bool.or_eq_true, Bool.and_eq_true, decide_eq_true_eq] at h
  rcases h with h | h
  · rw [h]; rfl
  · exact h.1.1.1

theorem pktAddrs_len {a0 a1 a2 : List Char} {r : List Char × List Char} (h : pktAddrs a0 a1 a2 = .ok r) :
    a0.length = 9 ∧ a1.length = 9 ∧ a2.length = 9 := by
  unfold pktAddrs at h
  have hv := (of_check_ok h).1
  simp only [Bool.and_eq_true] at hv
  exact ⟨validAddr_len hv.1.1, validAddr_len hv.1.2, validAddr_len hv.2⟩

theorem wf_parts {f : Frame} (h : f.WF = true) :
    verbs.contains f.verb = true ∧ (f.seqn = "---".toList ∨ f.seqn.length = 3 ∧ allB isDigit f.seqn = true) ∧
    isValidAddr f.a0 = true ∧ isValidAddr f.a1 = true ∧ isValidAddr f.a2 = true ∧ addrSetOk f.a0 f.a1 f.a2 = true ∧
    f.code.length = 4 ∧ allB isUpperHex f.code = true ∧ isPayloadShape f.payload = true ∧
    f.len = toDecW 3 (f.payload.length / 2) := by
  simpa only [Frame.WF, Bool.and_eq_true, Bool.or_eq_true, decide_eq_true_eq, and_assoc] using h

/-- an accepted text is never newline-terminated (the `$` of COMMAND_REGEX tolerates one "\n",
    but the length check that follows cannot hold for it) and has the core shape -/
theorem accepted_core (s : List Char) (f : Frame) (h : parseFrame s = .ok f) :
    isFrameShapeCore s = true := by
  obtain ⟨hs, _, hlen, _⟩ := parseFrame_ok.1 h
  unfold isFrameShape at hs
  rcases Bool.or_eq_true _ _ ▸ hs with hs | hs
  · exact hs
  · exfalso
    split at hs
    · next rest hrev =>
      have hs' : s = rest.reverse ++ ['\n'] := by simpa using congrArg List.reverse hrev
      -- the text before the newline has a payload of even length; with the newline it is odd
      obtain ⟨hp1, _, hp3, _⟩ := payloadShape (core_shape hs).2.2.2.2.2.2.2
      rw [List.length_drop] at hp1 hp3
      have hd : (frameFields s).payload = rest.reverse.drop 46 ++ ['\n'] := by
        rw [hs', ← List.drop_append_of_le_length (by omega)]; rfl
      rw [hd, List.length_append, List.length_drop] at hlen
      simp only [List.length_cons, List.length_nil] at hlen
      omega
    · cases hs

/-- **print ∘ parse = id**: whatever text is accepted prints back as exactly that text -/
theorem print_parse (s : List Char) (f : Frame) (h : parseFrame s = .ok f) : printFrame f = s := by
  obtain ⟨h23, h67, h1617, h2627, h3637, h4142, h4546, _⟩ := core_shape (accepted_core s f h)
  rw [← (parseFrame_ok.1 h).2.2.2]
  unfold printFrame frameFields
  simp only [List.append_assoc, List.cons_append]
  have sp : ∀ (a : Nat), slice s a (a + 1) = [' '] → ' ' :: s.drop (a + 1) = s.drop a := fun a hh => by
    rw [← slice_append_drop s a (a + 1) (by omega), hh]; rfl
  rw [sp 45 h4546, slice_append_drop s 42 45 (by omega), sp 41 h4142,
    slice_append_drop s 37 41 (by omega), sp 36 h3637, slice_append_drop s 27 36 (by omega),
    sp 26 h2627, slice_append_drop s 17 26 (by omega), sp 16 h1617,
    slice_append_drop s 7 16 (by omega), sp 6 h67, slice_append_drop s 3 6 (by omega), sp 2 h23]
  exact List.take_append_drop 2 s

/-- the length field of an accepted frame is the payload's byte count, and the fixed-column
    slices of `_validate` are the parsed fields -/
theorem len_is_byte_count (s : List Char) (f : Frame) (h : parseFrame s = .ok f) :
    f.payload.length = pyIntDigits f.len * 2 ∧ f.len = slice s 42 45 ∧ f.payload = s.drop 46 ∧
    f.a0 ++ ' ' :: f.a1 ++ ' ' :: f.a2 = slice s 7 16 ++ ' ' :: slice s 17 26 ++ ' ' :: slice s 27 36 := by
  obtain ⟨_, _, hlen, rfl⟩ := parseFrame_ok.1 h
  exact ⟨hlen, rfl, rfl, rfl⟩

theorem wf_lengths (f : Frame) (h : f.WF = true) :
    f.verb.length = 2 ∧ f.seqn.length = 3 ∧ f.a0.length = 9 ∧ f.a1.length = 9 ∧ f.a2.length = 9 ∧
    f.code.length = 4 ∧ f.len.length = 3 := by
  obtain ⟨hv, hs, h0, h1, h2, _, hc, _, _, hl⟩ := wf_parts h
  refine ⟨?_, ?_, validAddr_len h0, validAddr_len h1, validAddr_len h2, hc, ?_⟩
  · simp only [verbs, List.contains_cons, List.contains_nil, Bool.or_false, Bool.or_eq_true,
      beq_iff_eq] at hv
    rcases hv with hv | hv | hv | hv <;> rw [hv] <;> rfl
  · rcases hs with hs | hs
    · rw [hs]; rfl
    · exact hs.1
  · rw [hl]; exact toDecW_length 3 _

/-- the positional fields of the printed text are the frame's fields, and the separators
    are single spaces -/
theorem fields_of_print (f : Frame) (h2 : f.verb.length = 2) (h3 : f.seqn.length = 3)
    (h4 : f.a0.length = 9) (h5 : f.a1.length = 9) (h6 : f.a2.length = 9)
    (h7 : f.code.length = 4) (h8 : f.len.length = 3) :
    frameFields (printFrame f) = f ∧
    slice (printFrame f) 2 3 = [' '] ∧ slice (printFrame f) 6 7 = [' '] ∧
    slice (printFrame f) 16 17 = [' '] ∧ slice (printFrame f) 26 27 = [' '] ∧
    slice (printFrame f) 36 37 = [' '] ∧ slice (printFrame f) 41 42 = [' '] ∧
    slice (printFrame f) 45 46 = [' '] := by
  have := fieldsAt (s := printFrame f) (a := 0) (r := f.payload)
    [f.verb, [' '], f.seqn, [' '], f.a0, [' '], f.a1, [' '], f.a2, [' '], f.code, [' '], f.len, [' ']]
    (by simp only [printFrame, List.drop_zero, List.foldr, List.append_assoc, List.cons_append, List.nil_append])
  simp only [FieldsAt, h2, h3, h4, h5, h6, h7, h8, List.length_singleton, Nat.reduceAdd] at this
  obtain ⟨(e0 : (printFrame f).take 2 = _), s2, e1, s6, e2, s16, e3, s26, e4, s36, e5, s41, e6, s45, c46⟩ := this
  exact ⟨by rw [frameFields, e0, e1, e2, e3, e4, e5, e6, c46], s2, s6, s16, s26, s36, s41, s45⟩

theorem digit_uni (s : List Char) (h : allB isDigit s = true) : allB uniDigit s = true := by
  unfold allB at *
  simp only [List.all_eq_true] at *
  intro c hc
  have := h c hc
  unfold isDigit at this
  unfold uniDigit Re.isUniDigit
  simp only [Bool.and_eq_true, decide_eq_true_eq] at this
  simp [this.1, this.2]

theorem validAddr_shape (a : List Char) (h : isValidAddr a = true) : isAddrShape a = true := by
  unfold isValidAddr at h
  unfold isAddrShape
  simp only [Bool.or_eq_true, Bool.and_eq_true, decide_eq_true_eq] at *
  rcases h with h | h
  · exact Or.inl h
  · exact Or.inr ⟨⟨⟨h.1.1.1, digit_uni _ h.1.1.2⟩, h.1.2⟩, digit_uni _ h.2⟩

theorem pyInt_toDecW3 (n : Nat) (h : n < 1000) :
    pyIntDigits (toDecW 3 n) = n ∧ allB uniDigit (toDecW 3 n) = true := by
  have hd : ∀ k < 10, uniDigitVal (Char.ofNat (48 + k)) = k ∧ uniDigit (Char.ofNat (48 + k)) = true := by decide
  have a := hd (n / 10 / 10 % 10) (Nat.mod_lt _ (by decide))
  have b := hd (n / 10 % 10) (Nat.mod_lt _ (by decide))
  have c := hd (n % 10) (Nat.mod_lt _ (by decide))
  simp only [toDecW, List.nil_append, List.cons_append, pyIntDigits, List.foldl, a.1, b.1, c.1,
    allB, List.all_cons, List.all_nil, a.2, b.2, c.2, Bool.and_self, and_true]
  omega

theorem validAddr_dashes {a : List Char} (hv : isValidAddr a = true) (hd : a.take 2 = "--".toList) : a = nonId := by
  unfold isValidAddr at hv
  simp only [Bool.or_eq_true, Bool.and_eq_true, decide_eq_true_eq] at hv
  rcases hv with hv | hv
  · exact hv
  · rw [hd] at hv; exact absurd hv.1.1.2 (by decide)

/-- three valid addresses in one of the legal shapes are accepted by `pkt_addrs` -/
theorem pktAddrs_ok {a0 a1 a2 : List Char} (h0 : isValidAddr a0 = true) (h1 : isValidAddr a1 = true)
    (h2 : isValidAddr a2 = true) (hset : addrSetOk a0 a1 a2 = true) : ∃ r, pktAddrs a0 a1 a2 = .ok r := by
  unfold pktAddrs
  simp only [h0, h1, h2, hset, Bool.and_self, not_true_eq_false, if_false]
  split
  · next hnil =>
    -- no device id among the three: then the first and the last are `--:------`, which no legal shape allows
    have dash : ∀ a ∈ [a0, a1, a2], a.take 2 = "--".toList := fun a ha =>
      Decidable.not_not.1 fun hn => List.filter_eq_nil_iff.1 hnil a ha (decide_eq_true hn)
    rw [validAddr_dashes h0 (dash a0 (by simp)), validAddr_dashes h2 (dash a2 (by simp))] at hset
    simp [addrSetOk] at hset
  · exact ⟨_, rfl⟩
  · exact ⟨_, rfl⟩

theorem frameShapeCore_fields (s : List Char) : isFrameShapeCore s =
    (verbs.contains (frameFields s).verb &&
    slice s 2 3 = [' '] && isSeqnShape (frameFields s).seqn &&
    slice s 6 7 = [' '] && isAddrShape (frameFields s).a0 &&
    slice s 16 17 = [' '] && isAddrShape (frameFields s).a1 &&
    slice s 26 27 = [' '] && isAddrShape (frameFields s).a2 &&
    slice s 36 37 = [' '] && (frameFields s).code.length = 4 && allB isUpperHex (frameFields s).code &&
    slice s 41 42 = [' '] && (frameFields s).len.length = 3 && allB uniDigit (frameFields s).len &&
    slice s 45 46 = [' '] && isPayloadShape (frameFields s).payload) := rfl

/-- **parse ∘ print = id** for every well-formed frame (all verbs, seqn, the three address
    shapes over all ids, any code, payloads of 1–48 bytes) -/
theorem parse_print (f : Frame) (h : f.WF = true) : parseFrame (printFrame f) = .ok f := by
  obtain ⟨l2, l3, l4, l5, l6, l7, l8⟩ := wf_lengths f h
  obtain ⟨hf, s1, s2, s3, s4, s5, s6, s7⟩ := fields_of_print f l2 l3 l4 l5 l6 l7 l8
  obtain ⟨hv, hs, h0, h1, h2, hset, hc, hch, hp, hl⟩ := wf_parts h
  obtain ⟨_, hp96, hp2, _⟩ := payloadShape hp
  obtain ⟨hint, hdig⟩ := pyInt_toDecW3 (f.payload.length / 2) (by omega)
  refine parseFrame_ok.2 ⟨?_, ?_, ?_, hf⟩
  · unfold isFrameShape
    rw [frameShapeCore_fields, hf, s1, s2, s3, s4, s5, s6, s7]
    simp only [hv, validAddr_shape _ h0, validAddr_shape _ h1, validAddr_shape _ h2, hc, hch, hp,
      l8, Bool.and_true, Bool.true_and, decide_true, Bool.or_eq_true, Bool.and_eq_true]
    left
    refine ⟨?_, by rw [hl]; exact hdig⟩
    unfold isSeqnShape
    rcases hs with hs | hs
    · simp [hs]
    · simp [hs.1, digit_uni _ hs.2]
  · rw [hf]; exact pktAddrs_ok h0 h1 h2 hset
  · rw [hf, hl, hint]; omega
/-- `Command(frame)` accepts exactly what `Frame(frame)` accepts: the second, fixed-column
    validation can never disagree with the first -/
theorem slices_agree (s : List Char) (f : Frame) (h : parseFrame s = .ok f) :
    parseCommand s = .ok f := by
  obtain ⟨_, ⟨r, hr⟩, hlen, _⟩ := parseFrame_ok.1 h
  obtain ⟨_, _, _, hp⟩ := payloadShape (core_shape (accepted_core s f h)).2.2.2.2.2.2.2
  -- the payload has no space in it, so `[46:].split(" ")[0]` is the payload
  have hnosp : (splitOnChar ' ' (s.drop 46)).headD [] = s.drop 46 :=
    splitOnChar_head fun m => absurd (List.all_eq_true.1 hp _ m) (by decide)
  -- `_validate` cuts the three addresses out of `[7:36]`: the same slices
  have ea : ∀ (a b : Nat), slice (slice s 7 36) a b = slice s (7 + a) (7 + (min b 29)) := by
    intro a b
    unfold slice
    rw [List.take_drop, List.take_take, List.drop_drop]
    congr 2
    omega
  have e0 : slice (slice s 7 36) 0 9 = slice s 7 16 := by rw [ea]; rfl
  have e1 : slice (slice s 7 36) 10 19 = slice s 17 26 := by rw [ea]; rfl
  have e2 : slice (slice s 7 36) 20 29 = slice s 27 36 := by rw [ea]; rfl
  simp only [frameFields] at hlen hr
  unfold parseCommand validateSlices
  simp only [h, hnosp, e0, e1, e2, hr]
  rw [if_neg (not_not_intro hlen)]

/-- `Command(frame)` accepts nothing that `Frame(frame)` does not -/
theorem parseCommand_ok {s : List Char} {f : Frame} (h : parseCommand s = .ok f) : parseFrame s = .ok f := by
  unfold parseCommand at h
  split at h
  · cases h
  · next hf => split at h <;> cases h; exact hf

/-- `Command(frame)` round-trips every well-formed frame -/
theorem command_roundtrip (f : Frame) (h : f.WF = true) : parseCommand (printFrame f) = .ok f :=
  slices_agree _ _ (parse_print f h)

/-- the generic constructor `Command._from_attrs(verb, code, payload, addr0.., seqn)` rebuilds
    exactly the frame whose attributes it is given (the length field is recomputed) -/
theorem attrs_roundtrip (f : Frame) (h : f.WF = true) :
    fromAttrs f.verb f.code f.payload f.a0 f.a1 f.a2 (some f.seqn) = .ok f := by
  obtain ⟨l2, l3, l4, l5, l6, _⟩ := wf_lengths f h
  obtain ⟨_, _, h0, h1, h2, hset, _, _, hp, hl⟩ := wf_parts h
  obtain ⟨_, hp96, _, _⟩ := payloadShape hp
  obtain ⟨r, hr⟩ := pktAddrs_ok h0 h1 h2 hset
  have hseq : (if f.seqn = [] ∨ f.seqn = "-".toList ∨ f.seqn = "--".toList ∨ f.seqn = "---".toList
      then "---".toList else f.seqn) = f.seqn := by
    split
    · next hh => rcases hh with hh | hh | hh | hh <;> first | exact hh.symm | (rw [hh] at l3; cases l3)
    · rfl
  -- the joined addresses are cut where they were joined
  have j := fieldsAt (s := f.a0 ++ ' ' :: f.a1 ++ ' ' :: f.a2) (a := 0) (r := []) [f.a0, [' '], f.a1, [' '], f.a2] (by simp)
  simp only [FieldsAt, l4, l5, l6, List.length_singleton, Nat.reduceAdd] at j
  obtain ⟨j0, -, j1, -, j2, -⟩ := j
  have hfd : fmtDec3 (f.payload.length / 2) = f.len := by
    unfold fmtDec3; rw [if_pos (by omega), hl]
  unfold fromAttrs
  have ne : ∀ {a : List Char}, a.length = 9 → ¬ a = [] := fun hl e => by rw [e] at hl; cases hl
  have nv : ∀ c, ¬ f.verb = [c] := fun c e => by rw [e] at l2; cases l2
  simp only [nv, ne l4, ne l5, ne l6, if_false, j0, j1, j2, hr, hseq, hfd]
  exact command_roundtrip f h

/-- non-vacuity: a real frame is well-formed, prints, and parses back -/
example :
    let f : Frame := ⟨"RQ".toList, "---".toList, "01:078710".toList, "10:067219".toList, nonId,
      "3220".toList, "005".toList, "0000050000".toList⟩
    f.WF = true ∧ printFrame f = "RQ --- 01:078710 10:067219 --:------ 3220 005 0000050000".toList ∧
    parseFrame (printFrame f) = .ok f := by decide +kernel

end Ramses.C02
