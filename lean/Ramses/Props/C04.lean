/-
  C04 — wire value codecs are exact inverses on their grid: temperatures, percentages, counters,
  booleans and flag bytes here; date-times, packed stamps and device ids in C04Dtm.lean (same namespace).

  Floats are Python's binary64, modelled exactly (Model/Dbl.lean); the temperature / percentage
  statements rest on `round_div_mul` and `divInt_le_one` (Proofs/DblLemmas: a correctly rounded
  quotient is within 2^-53 of the exact one).  All by argument over the whole grid (flag bytes: the
  bits of a byte sum back to it); only the sentinel words and the booleans are evaluated.
-/
import Ramses.Proofs.HexLemmas
import Ramses.Proofs.PyLemmas
import Ramses.Proofs.DblLemmas
namespace Ramses.C04

/-- the 4-hex word of a signed hundredths value (two's complement) -/
def word (k : Int) : List Char := fmtHex 4 (if k ≥ 0 then k.toNat else (k + 2 ^ 16).toNat)

/-- the three hundredths values whose words are sentinels (31FF, 7EFF, 7FFF) -/
def sentinel (k : Int) : Prop := k = 12799 ∨ k = 32511 ∨ k = 32767

/-- the word of k as a natural number -/
def wnat (k : Int) : Nat := if k ≥ 0 then k.toNat else (k + 2 ^ 16).toNat

theorem word_eq (k : Int) : word k = fmtHex 4 (wnat k) := rfl

/-- two's complement, in the form `omega` can use: with this in the context it settles every bound,
    sentinel comparison and signed reading of `wnat k` -/
theorem wnat_cast {k : Int} (h1 : -32768 ≤ k) : (wnat k : Int) = if k < 0 then k + 65536 else k := by
  unfold wnat; split <;> omega

theorem wnat_sint {n : Nat} (h : n < 2 ^ 16) : wnat (if n < 2 ^ 15 then (n : Int) else (n : Int) - 2 ^ 16) = n := by
  unfold wnat; split <;> split <;> omega

/-- two's complement, as its users need it: the word of `k` fits four hex digits, reads back as `k` when taken
    as a signed 16-bit number, and is a positive word `m < 2^15` only for `k = m` (so: no sentinel word unless
    `k` is that sentinel value) -/
theorem wnat_spec {k : Int} (h1 : -32768 ≤ k) (h2 : k ≤ 32767) :
    wnat k < 16 ^ 4 ∧ (if wnat k < 2 ^ 15 then (wnat k : Int) else (wnat k : Int) - 2 ^ 16) = k ∧
    ∀ m : Nat, m < 2 ^ 15 → k ≠ m → wnat k ≠ m := by
  have hc := wnat_cast h1  -- `omega` reads `wnat k` through this
  refine ⟨by omega, by split <;> omega, fun m hm hne e => ?_⟩
  omega

theorem word_length {k : Int} (h1 : -32768 ≤ k) (h2 : k ≤ 32767) : (word k).length = 4 :=
  fmtHex_length 4 (wnat k) (h := (wnat_spec h1 h2).1)

/-- `hex_to_temp` on a printed word that is no sentinel: its signed reading, refused below absolute zero -/
theorem hexToTemp_fmtHex {n : Nat} (h : n < 16 ^ 4) (e1 : n ≠ 0x31FF) (e2 : n ≠ 0x7EFF) (e3 : n ≠ 0x7FFF) :
    hexToTemp (fmtHex 4 n) =
      if (if n < 2 ^ 15 then (n : Int) else (n : Int) - 2 ^ 16) < -27315 then .error .valueError
      else .ok (tempOfCenti (if n < 2 ^ 15 then (n : Int) else (n : Int) - 2 ^ 16)) := by
  unfold hexToTemp
  rw [if_neg (not_not_intro (fmtHex_length 4 n)), if_neg (fmtHex_ne (m := 0x31FF) (by decide) e1),
    if_neg (fmtHex_ne (m := 0x7EFF) (by decide) e2), if_neg (fmtHex_ne (m := 0x7FFF) (by decide) e3), ofHex_fmtHex 4 n]

theorem centi_roundtrip (k : Int) (h1 : -32768 ≤ k) (h2 : k ≤ 32767) :
    centiOfTemp (decide (k < 0)) (divInt k.natAbs 100) = k := by
  rw [centiOfTemp, round_div_mul k.natAbs (by decide) (by omega)]
  by_cases hk : k < 0 <;> simp [hk] <;> omega

/-- **encode**: every temperature k/100 a word can carry is encoded as the word of k
    (so `int(x*100)`-style truncation cannot occur), for the whole grid -/
theorem temp_encode (k : Int) (h1 : -32768 ≤ k) (h2 : k ≤ 32767) :
    hexFromTemp (tempOfCenti k) = .ok (word k) := by
  unfold tempOfCenti hexFromTemp
  simp only [centi_roundtrip k h1 h2]
  rw [if_neg (by omega)]; rfl

/-- **decode ∘ encode = id** on every non-sentinel temperature of the wire grid,
    −273.15 … 327.66 -/
theorem temp_enc_dec (k : Int) (h1 : -27315 ≤ k) (h2 : k ≤ 32767) (hs : ¬ sentinel k) :
    (hexFromTemp (tempOfCenti k)).bind hexToTemp = .ok (tempOfCenti k) := by
  unfold sentinel at hs
  have h1' : -32768 ≤ k := by omega
  obtain ⟨hw, hsigned, hne⟩ := wnat_spec h1' h2
  -- `k` is none of the three sentinel values, so its word is none of the sentinel words
  have e1 : wnat k ≠ 0x31FF := hne 0x31FF (by decide) (by omega)
  have e2 : wnat k ≠ 0x7EFF := hne 0x7EFF (by decide) (by omega)
  have e3 : wnat k ≠ 0x7FFF := hne 0x7FFF (by decide) (by omega)
  -- read back as a signed 16-bit number the word is `k` again, and `k` is not below absolute zero
  have hlo : ¬ k < -27315 := by omega
  rw [temp_encode k h1' h2, bind_ok_eq, word_eq, hexToTemp_fmtHex hw e1 e2 e3, hsigned, if_neg hlo]

/-- **encode ∘ decode = id**: every 4-hex word that decodes to a number re-encodes to itself
    (all 65 536 words) -/
theorem temp_dec_enc (w : Nat) (hw : w < 65536) (neg : Bool) (v : Dy)
    (h : hexToTemp (fmtHex 4 w) = .ok (.num neg v)) :
    hexFromTemp (.num neg v) = .ok (fmtHex 4 w) := by
  by_cases hs : w = 0x31FF ∨ w = 0x7EFF ∨ w = 0x7FFF
  · rcases hs with rfl | rfl | rfl <;> cases h  -- a sentinel word decodes to no number
  obtain ⟨e1, e2, e3⟩ : w ≠ 0x31FF ∧ w ≠ 0x7EFF ∧ w ≠ 0x7FFF := by omega
  have hw4 : w < 16 ^ 4 := by omega
  rw [hexToTemp_fmtHex hw4 e1 e2 e3] at h
  obtain ⟨hk, h⟩ := of_guard_ok h
  -- the number is the signed reading of `w`: in the 16-bit range, so encoded as its word, which is `w`
  rw [← Except.ok.inj h, temp_encode _ (by omega) (by omega), word_eq, wnat_sint (by omega)]

/-- sentinels survive: `None` and `False` encode to words that decode to themselves -/
theorem temp_sentinels :
    hexFromTemp .none = .ok "7FFF".toList ∧ hexToTemp "7FFF".toList = .ok .none ∧
    hexToTemp "31FF".toList = .ok .none ∧
    hexFromTemp .false_ = .ok "7EFF".toList ∧ hexToTemp "7EFF".toList = .ok .false_ := by
  decide +kernel

/-- **no silent wrap**: whatever float is offered, the encoder either refuses it or emits the
    word of exactly `round(value*100)`, which lies in the signed 16-bit range -/
theorem temp_no_wrap (neg : Bool) (v : Dy) (s : List Char)
    (h : hexFromTemp (.num neg v) = .ok s) :
    -(2 ^ 15) ≤ centiOfTemp neg v ∧ centiOfTemp neg v < 2 ^ 15 ∧ s = word (centiOfTemp neg v) := by
  unfold hexFromTemp at h
  obtain ⟨hr, h⟩ := of_guard_ok h
  exact ⟨by omega, by omega, (Except.ok.inj h).symm⟩

/-- non-vacuity: 20.07 °C (a value the old `int(x*100)` got wrong) and −5.5 °C -/
example : hexFromTemp (tempOfCenti 2007) = .ok "07D7".toList ∧
          hexToTemp "07D7".toList = .ok (tempOfCenti 2007) ∧
          hexFromTemp (tempOfCenti (-550)) = .ok "FDDA".toList ∧
          hexToTemp "FDDA".toList = .ok (tempOfCenti (-550)) ∧
          hexFromTemp (.num false ⟨400, 0⟩) = .error .valueError := by decide +kernel


/-- byte `b` at resolution `hr`: if it decodes to a number it re-encodes to the same byte, if it
    decodes to "not available" that re-encodes to `EF`, which decodes to "not available" -/
def pctByteOk (hr : Bool) (b : Nat) : Bool :=
  match hexToPercent (fmtHex 2 b) hr with
  | .ok (some v) => hexFromPercent (some v) hr == .ok (fmtHex 2 b)
  | .ok none => hexFromPercent none hr == .ok "EF".toList && hexToPercent "EF".toList hr == .ok none
  | .error _ => (if hr then 200 else 100) < b      -- rejected exactly when above 100 %

/-- `hex_to_percent` on a printed byte other than `EF`: "not available" for a high nibble F, else the quotient
    if it is at most one -/
theorem hexToPercent_fmtHex (hr : Bool) {b : Nat} (hb : b < 256) (hEF : b ≠ 0xEF) :
    hexToPercent (fmtHex 2 b) hr =
      if b / 16 = 15 then .ok none
      else if (divInt b (if hr then 200 else 100)).leFrac 1 1 then .ok (some (divInt b (if hr then 200 else 100)))
      else .error .valueError := by
  unfold hexToPercent
  rw [if_neg (not_not_intro (fmtHex_length 2 b)), if_neg (fmtHex_ne (m := 0xEF) (by decide) hEF), ofHex_fmtHex 2 b]
  simp only [Dy.leFrac_one_iff]

/-- `hex_from_percent` on a quotient `k / 200` (`k / 100`) that passes its guard: the byte `k`
    (`round_div_mul`: the two roundings do not move `k`) -/
theorem hexFromPercent_divInt (hr : Bool) {k : Nat} (hk : k < 2 ^ 51)
    (hle : (divInt k (if hr then 200 else 100)).leFrac 1 1 = true) :
    hexFromPercent (some (divInt k (if hr then 200 else 100))) hr = .ok (fmtHex 2 k) := by
  have hden : 0 < (if hr then 200 else 100) := by cases hr <;> decide
  unfold hexFromPercent
  simp only [hle, round_div_mul k hden hk, not_true_eq_false, if_false]

theorem percent_dec_enc (hr : Bool) (b : Nat) (hb : b < 256) : pctByteOk hr b = true := by
  have hnone : (hexFromPercent none hr == .ok "EF".toList && hexToPercent "EF".toList hr == .ok none) = true := by
    cases hr <;> rfl
  unfold pctByteOk
  by_cases hEF : b = 0xEF
  · subst hEF; cases hr <;> rfl
  rw [hexToPercent_fmtHex hr hb hEF]
  by_cases h15 : b / 16 = 15
  · rw [if_pos h15]; exact hnone
  rw [if_neg h15]
  by_cases hle : (divInt b (if hr then 200 else 100)).leFrac 1 1 = true
  · -- accepted: the encoder gives the byte back
    rw [if_pos hle]
    exact beq_iff_eq.2 (hexFromPercent_divInt hr (by omega) hle)
  · -- refused: then `b` is above 100 %, since a quotient that is at most one stays so after rounding
    rw [if_neg hle]
    exact decide_eq_true (Nat.lt_of_not_le fun h => hle (divInt_le_one h))

/-- every grid value k/200 (k/100) encodes to byte k and decodes back to the same float -/
theorem percent_enc_dec (hr : Bool) (k : Nat) (hk : k ≤ (if hr then 200 else 100)) :
    hexFromPercent (some (divInt k (if hr then 200 else 100))) hr = .ok (fmtHex 2 k) ∧
    hexToPercent (fmtHex 2 k) hr = .ok (some (divInt k (if hr then 200 else 100))) := by
  have hden : (if hr then 200 else 100) ≤ 200 := by cases hr <;> decide
  have hle := divInt_le_one hk
  refine ⟨hexFromPercent_divInt hr (by omega) hle, ?_⟩
  rw [hexToPercent_fmtHex hr (by omega) (by omega), if_neg (by omega), if_pos hle]

/-- out-of-range percentages are refused, never wrapped -/
theorem percent_refuses (v : Dy) (hr : Bool) (h : v.leFrac 1 1 = false) :
    hexFromPercent (some v) hr = .error .valueError := by
  unfold hexFromPercent; simp [h]

/-- counters ("doubles", factor 1): every 4-hex word but the sentinel 7FFF decodes to its value -/
theorem double_enc_dec (n : Nat) (h : n < 65536) (hs : n ≠ 0x7FFF) :
    hexToDouble (fmtHex 4 n) 1 = .ok (some (divInt n 1)) := by
  unfold hexToDouble
  rw [if_neg (not_not_intro (fmtHex_length 4 n)), if_neg (fmtHex_ne (m := 0x7FFF) (by decide) hs), ofHex_fmtHex 4 n]
  rfl

def boolOk (b : Option Bool) : Bool := hexToBool (hexFromBool b) == .ok b
theorem bool_roundtrip (b : Option Bool) : hexToBool (hexFromBool b) = .ok b := by
  cases b with
  | none => decide
  | some b => cases b <;> decide

def flagOk (lsb : Bool) (b : Nat) : Bool :=
  match hexToFlag8 (fmtHex 2 b) lsb with
  | .ok bits => hexFromFlag8 bits lsb == .ok (fmtHex 2 b)
  | .error _ => false

theorem sumBits_bitsMsb (n : Nat) (h : n < 256) : sumBitsLsb (bitsMsb n).reverse 0 = n := by
  simp only [bitsMsb, List.reverse_cons, List.reverse_nil, List.nil_append, List.cons_append, sumBitsLsb]
  omega

theorem flag8_roundtrip (lsb : Bool) (b : Nat) (hb : b < 256) : flagOk lsb b = true := by
  have hl : (if lsb = true then (bitsMsb b).reverse else bitsMsb b).length = 8 := by split <;> rfl
  -- in either bit order the encoder sums the bits least significant first
  have hs : (if lsb = true then (if lsb = true then (bitsMsb b).reverse else bitsMsb b)
      else (if lsb = true then (bitsMsb b).reverse else bitsMsb b).reverse) = (bitsMsb b).reverse := by
    cases lsb <;> simp
  simp only [flagOk, hexToFlag8, hexFromFlag8, fmtHex_length 2 b, ofHex_fmtHex 2 b, hl, hs, sumBits_bitsMsb b hb,
    ne_eq, not_true_eq_false, if_false, beq_self_eq_true]

end Ramses.C04
